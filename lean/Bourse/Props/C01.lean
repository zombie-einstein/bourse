/-
C01 — orders execute by strict price-time priority.
First the fill rule and the dispatch of the implementation model; then the reference engine `Ref`
(where a newcomer is queued, what the loop consumes), the refinement, and the closed form of what an
incoming order executes.
-/
import Bourse.Lemmas.NoOverflow
import Bourse.Lemmas.RefTransfer
import Bourse.Lemmas.RefineTrace

namespace Bourse.Props.C01
open Bourse

/-- Each fill is at the resting order's price and side, for the smaller of the two remaining
volumes, stamped with the book time, naming aggressor and passive order. -/
theorem fill_rule (t : Nat) (agg pass : Order) :
    let r := Book.matchOrders t agg pass
    r.2.2.1 = { t := t, side := pass.side, price := pass.price, vol := min agg.vol pass.vol,
                active := agg.id, passive := pass.id } ∧
    r.2.2.2 = min agg.vol pass.vol ∧
    r.1.vol = agg.vol - min agg.vol pass.vol ∧ r.2.1.vol = pass.vol - min agg.vol pass.vol := by
  simp only [Book.matchOrders]
  refine ⟨trivial, trivial, ?_, ?_⟩ <;> split <;> rfl

/-- A fill conserves volume: both orders lose exactly the traded volume. -/
theorem fill_conserves (t : Nat) (agg pass : Order) :
    let r := Book.matchOrders t agg pass
    r.1.vol + r.2.2.2 = agg.vol ∧ r.2.1.vol + r.2.2.2 = pass.vol := by
  obtain ⟨_, h2, h3, h4⟩ := fill_rule t agg pass
  simp only [h2, h3, h4]
  omega

/-- An order is marked Filled (and given its end time) exactly when its volume reaches zero;
otherwise status and end time are untouched. -/
theorem fill_status (t : Nat) (agg pass : Order) :
    let r := Book.matchOrders t agg pass
    (r.1.vol = 0 → r.1.status = .filled ∧ r.1.endt = t) ∧
    (r.1.vol ≠ 0 → r.1.status = agg.status ∧ r.1.endt = agg.endt) ∧
    (r.2.1.vol = 0 → r.2.1.status = .filled ∧ r.2.1.endt = t) ∧
    (r.2.1.vol ≠ 0 → r.2.1.status = pass.status ∧ r.2.1.endt = pass.endt) := by
  simp only [Book.matchOrders]
  refine ⟨?_, ?_, ?_, ?_⟩ <;> split <;> simp_all

/-- The match loop stops as soon as the aggressor is exhausted. -/
theorem loop_stops_exhausted (sd : Side) (fuel : Nat) (b : Book) (e : Entry) (h : e.order.vol = 0) :
    Book.matchLoop sd (fuel + 1) b e = (b, e) :=
  Book.matchLoop_stops (.inl (by simp [h])) fuel

/-- The match loop stops as soon as the best opposite price no longer satisfies the limit. -/
theorem loop_stops_uncrossed (sd : Side) (fuel : Nat) (b : Book) (e : Entry)
    (h : Book.crosses sd e.order.price (bestPrice sd.opp (b.side sd.opp)) = false) :
    Book.matchLoop sd (fuel + 1) b e = (b, e) :=
  Book.matchLoop_stops (.inl (by simp [h])) fuel

/-- While it continues, the loop always trades with the *head* of the opposite priority queue
(best price, earliest stamp): one `fillStep` against exactly that entry. -/
theorem loop_trades_head (sd : Side) (fuel : Nat) (b : Book) (e : Entry) (id : Nat) (m : Entry)
    (hv : e.order.vol > 0)
    (hc : Book.crosses sd e.order.price (bestPrice sd.opp (b.side sd.opp)) = true)
    (hh : (b.side sd.opp).bestOrderIdx = some id) (hm : b.orders[id]? = some m) :
    Book.matchLoop sd (fuel + 1) b e =
      Book.matchLoop sd fuel (Book.fillStep sd b e id m).1 (Book.fillStep sd b e id m).2 :=
  Book.matchLoop_fills ⟨hv, hc, hh, hm⟩ fuel

/-- The crossing test is the limit test of the statement: a bid crosses iff the best ask is at or
below its limit, an ask iff the best bid is at or above its limit. -/
theorem crosses_iff (price best : Nat) :
    (Book.crosses .bid price best = true ↔ best ≤ price) ∧
    (Book.crosses .ask price best = true ↔ price ≤ best) := by
  simp [Book.crosses]

/-- Whatever remains of a market order never rests: after placement its status is Filled,
Cancelled or Rejected, and its own side of the book is exactly what matching left. -/
theorem market_remainder_discarded (sd : Side) (b : Book) (e : Entry) :
    ((Book.placeMarket sd b e).2.order.status = .filled ∨
     (Book.placeMarket sd b e).2.order.status = .cancelled ∨
     (Book.placeMarket sd b e).2.order.status = .rejected) ∧
    (Book.placeMarket sd b e).1.side sd =
      (if b.trading then (Book.matchSide sd b e).1.side sd else b.side sd) := by
  unfold Book.placeMarket
  split
  · unfold Book.cancelRemainder
    split
    · simp
    · rename_i h; simp at h; simp [h]
  · simp

/-- Whatever remains of a limit order rests at its limit price key with the next queue stamp —
a stamp larger than every stamp issued before, hence behind every order already at that price. -/
theorem limit_remainder_rests (sd : Side) (b : Book) (e : Entry)
    (h : (Book.matchIfTrading sd b e).2.order.status ≠ .filled) :
    let r := Book.matchIfTrading sd b e
    (Book.placeLimit sd b e).2.key = ⟨sd, e.key.pk, r.1.stamp⟩ ∧
    (Book.placeLimit sd b e).1.stamp = r.1.stamp + 1 ∧
    (Book.placeLimit sd b e).1.side sd =
      (r.1.side sd).insertOrder e.key.pk r.1.stamp r.2.order.id r.2.order.vol := by
  simp [Book.placeLimit, Book.restUnlessFilled, h, Book.enqueue]
  cases sd <;> rfl

/-- A completely filled limit order does not rest. -/
theorem limit_filled_does_not_rest (sd : Side) (b : Book) (e : Entry)
    (h : (Book.matchIfTrading sd b e).2.order.status = .filled) :
    Book.placeLimit sd b e = Book.matchIfTrading sd b e := by
  simp [Book.placeLimit, Book.restUnlessFilled, h]

/-- In the reference engine a newcomer is queued behind every resting order whose price is
better or equal, and ahead of the rest; the relative order of the others is unchanged. -/
theorem ref_enqueue_position (os : List Order) (sd : Side) (q : List Nat) (id price : Nat) :
    ∃ front back, Ref.enqueue os sd q id price = front ++ id :: back ∧ front ++ back = q ∧
      (∀ j ∈ front, Ref.ahead sd (Ref.priceOf os j) price = true) ∧
      (∀ j, back.head? = some j → Ref.ahead sd (Ref.priceOf os j) price = false) := by
  refine ⟨q.takeWhile _, q.dropWhile _, rfl, List.takeWhile_append_dropWhile,
    fun j hj => mem_takeWhile_imp (p := fun j => Ref.ahead sd (Ref.priceOf os j) price) hj, fun j hj => ?_⟩
  simpa [hj] using List.head?_dropWhile_not (fun j => Ref.ahead sd (Ref.priceOf os j) price) q

/-- Non-vacuity and a concrete reading of the rule: two asks at one price and a better-priced
one; a buy for 12 takes the better price first, then the earlier of the two, partially. -/
example :
    let b0 := Book.new 0 1 true
    let b1 := (b0.step (.cap .ask 5 1 (some 11))).1
    let b2 := ((b1.step (.time 1)).1.step (.cap .ask 5 2 (some 11))).1
    let b3 := ((b2.step (.time 2)).1.step (.cap .ask 4 3 (some 10))).1
    let b4 := ((b3.step (.time 3)).1.step (.cap .bid 12 4 (some 11))).1
    b4.trades = [{ t := 3, side := .ask, price := 10, vol := 4, active := 3, passive := 2 },
                 { t := 3, side := .ask, price := 11, vol := 5, active := 3, passive := 0 },
                 { t := 3, side := .ask, price := 11, vol := 3, active := 3, passive := 1 }] := by
  decide

/-- The reference loop only ever consumes a prefix of the priority queue: whatever is left is a
suffix of the queue it started from (no resting order is skipped or overtaken). -/
theorem ref_match_consumes_prefix (t : Nat) (q : List Nat) (st : Ref.MatchSt) :
    ∃ pre, q = pre ++ (Ref.matchQ t q st).1 :=
  Ref.matchQ_suffix t q st

/-- **Refinement of states.** After any valid, fault-free history from a new book, forgetting the
implementation's keys, stamps and aggregates leaves exactly the reference engine's state after the
same history: same order records, same two priority queues (as id lists), same trade log, clock,
flag and counter. -/
theorem state_is_reference_state (t0 tick : Nat) (trading : Bool) (ht : 0 < tick) (ops : List Op)
    (hv : ∀ op ∈ ops, ValidOp op) (hnf : NoFault (Book.new t0 tick trading) ops) :
    abs ((Book.new t0 tick trading).run ops) = Ref.run (Ref.init t0 tick trading) ops :=
  abs_run_new t0 tick trading ht ops hv hnf

/-- **C01, last sentence.** For every valid, fault-free operation sequence on a new book, the
result of every operation and the complete observation after it (orders, trades, every market-data
view, clock, flag, counter) are exactly those of the straightforward reference matching engine. -/
theorem implementation_is_reference_engine (t0 tick : Nat) (trading : Bool) (ht : 0 < tick) (ops : List Op)
    (hv : ∀ op ∈ ops, ValidOp op) (hnf : NoFault (Book.new t0 tick trading) ops) (n : Nat)
    (hn : ∀ i, i < n → i * tick < P32) :
    Book.trace n (Book.new t0 tick trading) ops = Ref.trace n (Ref.init t0 tick trading) ops :=
  trace_run_new t0 tick trading ht ops hv hnf n hn

/-- **Price priority in every reachable state.** After any valid fault-free history, each side's
queue — the list the match loop consumes from the head — is sorted by price: nearer the head means a
better or equal price (higher for bids, lower for asks). Together with `ref_match_consumes_prefix`
and `ref_enqueue_position` (a newcomer goes behind every order with a better or equal price) this is
"best-priced first, earliest-queued first within a price". -/
theorem queues_sorted_by_price (t0 tick : Nat) (trading : Bool) (ht : 0 < tick) (ops : List Op)
    (hv : ∀ op ∈ ops, ValidOp op) (hnf : NoFault (Book.new t0 tick trading) ops) (sd : Side) :
    let r := Ref.run (Ref.init t0 tick trading) ops
    (r.queue sd).Pairwise (fun i j => Ref.ahead sd (Ref.priceOf r.orders i) (Ref.priceOf r.orders j) = true) :=
  abs_run_new t0 tick trading ht ops hv hnf ▸ rsorted_abs (inv_reachable t0 tick trading ht ops hv hnf) sd

/-- The hypotheses are satisfiable by a history that trades, rests, cancels and re-prices. -/
example :
    let ops : List Op := [.cap .ask 5 1 (some 11), .cap .ask 5 2 (some 11), .cap .bid 7 3 (some 11),
      .cap .bid 4 4 (some 9), .modify 3 (some 11) none, .cancel 1]
    (∀ op ∈ ops, ValidOp op) ∧ NoFault (Book.new 0 1 true) ops ∧
      ((Book.new 0 1 true).run ops).trades.length = 3 := by
  refine ⟨by decide, ?_, by decide⟩
  simp only [NoFault, and_true]
  decide

/-! `NoFault` (the model's overflow / missing-entry flags stay clear) is not an extra assumption: by
`noFault_iff_feasible` it holds exactly when ids refer to existing orders and the per-side resting
volume and cumulative traded volume stay below `2^32` — the property's own validity conditions
(`valid_histories_are_exactly_the_fault_free_ones` and the `_valid` forms at the end of the file). -/

/-- **C01, first sentence, for every reachable state.** After any valid fault-free history from a new
book, placing a New order `o` while trading is enabled logs exactly these new trade records, in this
order: take ALL resting orders of the opposite side that satisfy `o`'s limit (`adm`, in queue order:
best price first — `queues_sorted_by_price` — earliest queued first within a price —
`ref_enqueue_position`); hand out `o`'s volume greedily over them (`fs`: each gives the smaller of
what is still asked for and what it holds); one trade per hand-out, at the resting order's own
price and side, stamped with the book time, `o` the aggressor. The total executed is
`min (o's volume) (total admissible resting volume)` and `o` keeps the rest. -/
theorem placement_executes_greedily (t0 tick : Nat) (trading : Bool) (ht : 0 < tick) (ops : List Op)
    (hv : ∀ op ∈ ops, ValidOp op) (hnf : NoFault (Book.new t0 tick trading) ops)
    (id : Nat) (e : Entry)
    (he : ((Book.new t0 tick trading).run ops).orders[id]? = some e) (hnew : e.order.status = .new)
    (htr : ((Book.new t0 tick trading).run ops).trading = true)
    (hnf' : (((Book.new t0 tick trading).run ops).placeOrder id).faulted = false) :
    let b := (Book.new t0 tick trading).run ops
    let s := Ref.run (Ref.init t0 tick trading) ops
    let o := e.order
    let adm := (s.queue o.side.opp).filter fun j => Ref.admits o.side o.price (Ref.priceOf s.orders j)
    let fs := Ref.alloc o.vol (adm.map (Ref.volOf s.orders))
    (b.placeOrder id).trades = b.trades ++ (adm.zip fs).map (fun x => Ref.mkTrade b.t (Ref.orderAt s.orders x.1) o.id x.2) ∧
    fs.sum = min o.vol (adm.map (Ref.volOf s.orders)).sum ∧
    ∃ e', (b.placeOrder id).orders[id]? = some e' ∧ e'.order.vol = o.vol - fs.sum :=
  abs_run_new t0 tick trading ht ops hv hnf ▸
    place_greedy (inv_reachable t0 tick trading ht ops hv hnf) id e he hnew htr hnf'

/-- **C01, second sentence, for every reachable state**: "Whatever then remains of a limit order rests at its limit
price behind every order already at that price, and whatever remains of a market order is discarded."
With `rem` what the greedy allocation leaves of the placed order `o`: `rem = 0` — Filled, ended at the book
time, own side's queue unchanged; market order with `rem > 0` — Cancelled, ended at the book time, queue unchanged;
limit order with `rem > 0` — Active, and its side's queue is `Ref.enqueue … id o.price`: by `ref_enqueue_position`
that is the old queue with `id` inserted behind every resting order whose price is better or equal and ahead of the
others, nobody else moved. (Queues are read off the implementation model's keyed map in key order: `absq`.) -/
theorem remainder_rests_or_is_discarded (t0 tick : Nat) (trading : Bool) (ht : 0 < tick) (ops : List Op)
    (hv : ∀ op ∈ ops, ValidOp op) (hnf : NoFault (Book.new t0 tick trading) ops)
    (id : Nat) (e : Entry)
    (he : ((Book.new t0 tick trading).run ops).orders[id]? = some e) (hnew : e.order.status = .new)
    (htr : ((Book.new t0 tick trading).run ops).trading = true)
    (hnf' : (((Book.new t0 tick trading).run ops).placeOrder id).faulted = false) :
    let b := (Book.new t0 tick trading).run ops
    let s := Ref.run (Ref.init t0 tick trading) ops
    let o := e.order
    let adm := (s.queue o.side.opp).filter fun j => Ref.admits o.side o.price (Ref.priceOf s.orders j)
    let rem := o.vol - (Ref.alloc o.vol (adm.map (Ref.volOf s.orders))).sum
    ∃ e', (b.placeOrder id).orders[id]? = some e' ∧ e'.order.vol = rem ∧
      (rem = 0 → e'.order.status = .filled ∧ e'.order.endt = b.t ∧ absq ((b.placeOrder id).side o.side) = s.queue o.side) ∧
      (0 < rem → Book.isMarket o = true →
        e'.order.status = .cancelled ∧ e'.order.endt = b.t ∧ absq ((b.placeOrder id).side o.side) = s.queue o.side) ∧
      (0 < rem → Book.isMarket o = false →
        e'.order.status = .active ∧ absq ((b.placeOrder id).side o.side) = Ref.enqueue s.orders o.side (s.queue o.side) id o.price) :=
  abs_run_new t0 tick trading ht ops hv hnf ▸
    place_rest (inv_reachable t0 tick trading ht ops hv hnf) id e he hnew htr hnf'

/-- **…"(or re-priced)".** The same closed form for a modification that re-prices an Active order (or raises
its volume): it leaves its queue and executes, as the aggressor with its new limit and volume, the
greedy allocation over every admissible opposite resting order in queue order. -/
theorem repricing_executes_greedily (t0 tick : Nat) (trading : Bool) (ht : 0 < tick) (ops : List Op)
    (hv : ∀ op ∈ ops, ValidOp op) (hnf : NoFault (Book.new t0 tick trading) ops)
    (id : Nat) (e : Entry) (np nv : Option Nat)
    (he : ((Book.new t0 tick trading).run ops).orders[id]? = some e) (hact : e.order.status = .active)
    (hgrid : Book.offGrid ((Book.new t0 tick trading).run ops).tick np = false) (hre : ¬ (np = none ∧ nv = none))
    (hnotred : (np.isNone && decide (nv.getD e.order.vol < e.order.vol)) = false)
    (htr : ((Book.new t0 tick trading).run ops).trading = true) (hpvalid : ∀ p, np = some p → p ≤ MAXP)
    (hnf' : (((Book.new t0 tick trading).run ops).modifyOrder id np nv).faulted = false) :
    let b := (Book.new t0 tick trading).run ops
    let s := Ref.run (Ref.init t0 tick trading) ops
    let o := e.order
    let adm := (s.queue o.side.opp).filter fun j => Ref.admits o.side (np.getD o.price) (Ref.priceOf s.orders j)
    let fs := Ref.alloc (nv.getD o.vol) (adm.map (Ref.volOf s.orders))
    (b.modifyOrder id np nv).trades = b.trades ++ (adm.zip fs).map (fun x => Ref.mkTrade b.t (Ref.orderAt s.orders x.1) o.id x.2) ∧
    fs.sum = min (nv.getD o.vol) (adm.map (Ref.volOf s.orders)).sum :=
  abs_run_new t0 tick trading ht ops hv hnf ▸
    modify_greedy (inv_reachable t0 tick trading ht ops hv hnf) id e np nv he hact hgrid hre hnotred htr hpvalid
      hnf'

/-- The hand-outs themselves: never more than the resting order holds, every resting order before
the last one touched is emptied (so only the last fill can be partial), and together exactly
`min V (Σ volumes)`. -/
theorem greedy_allocation_shape (V : Nat) (vs : List Nat) :
    (Ref.alloc V vs).sum = min V vs.sum ∧ (Ref.alloc V vs).length ≤ vs.length ∧
    (∀ i (h : i < (Ref.alloc V vs).length) (h' : i < vs.length), (Ref.alloc V vs)[i] ≤ vs[i]) ∧
    (∀ i (h : i + 1 < (Ref.alloc V vs).length) (h' : i < vs.length), (Ref.alloc V vs)[i]'(by omega) = vs[i]) :=
  ⟨Ref.alloc_sum V vs, Ref.alloc_length_le V vs, Ref.alloc_le V vs, Ref.alloc_full_before_last V vs⟩

/-- **"…continuing until the incoming order is exhausted or no resting order satisfies its limit."**
When the reference loop returns, the aggressor has no volume left, or the opposite queue is empty,
or the order now at its head does not satisfy the aggressor's limit. -/
theorem ref_match_stops_for_the_stated_reasons (t : Nat) (q : List Nat) (st : Ref.MatchSt)
    (hq : ∀ j ∈ q, j < st.orders.length) :
    (Ref.matchQ t q st).2.agg.vol = 0 ∨ (Ref.matchQ t q st).1 = [] ∨
    ∃ j, (Ref.matchQ t q st).1.head? = some j ∧
      Ref.admits (Ref.matchQ t q st).2.agg.side (Ref.matchQ t q st).2.agg.price
        (Ref.priceOf (Ref.matchQ t q st).2.orders j) = false :=
  Ref.matchQ_stops t q st hq

/-- Non-vacuity, and the closed form evaluated: three asks (4 @ 10, then 5 @ 11 queued before another
5 @ 11); a buy of 12 with limit 11 is admitted by all three, is handed 4, 5 and 3, and the trades are
exactly those. A buy with limit 10 is admitted by one order only. -/
example :
    let ops : List Op := [.cap .ask 5 1 (some 11), .time 1, .cap .ask 5 2 (some 11), .time 2, .cap .ask 4 3 (some 10),
      .time 3, .create .bid 12 4 (some 11), .create .bid 12 4 (some 10)]
    let s := Ref.run (Ref.init 0 1 true) ops
    (∀ op ∈ ops, ValidOp op) ∧ NoFault (Book.new 0 1 true) ops ∧
    ((s.queue .ask).filter fun j => Ref.admits .bid 11 (Ref.priceOf s.orders j)) = [2, 0, 1] ∧
    Ref.alloc 12 [4, 5, 5] = [4, 5, 3] ∧
    (((Book.new 0 1 true).run ops).placeOrder 3).trades =
      [{ t := 3, side := .ask, price := 10, vol := 4, active := 3, passive := 2 },
       { t := 3, side := .ask, price := 11, vol := 5, active := 3, passive := 0 },
       { t := 3, side := .ask, price := 11, vol := 3, active := 3, passive := 1 }] ∧
    ((s.queue .ask).filter fun j => Ref.admits .bid 10 (Ref.priceOf s.orders j)) = [2] ∧
    (((Book.new 0 1 true).run ops).placeOrder 4).trades =
      [{ t := 3, side := .ask, price := 10, vol := 4, active := 4, passive := 2 }] ∧
    -- the bid 12 @ 10 keeps 8 and rests (Active, alone in the bid queue)
    ((((Book.new 0 1 true).run ops).placeOrder 4).orders.map fun e => (e.order.vol, e.order.status))[4]? = some (8, .active) ∧
    absq (((Book.new 0 1 true).run ops).placeOrder 4).bid = [4] ∧
    -- re-pricing the ask 5 @ 11 (id 0) down to 9 with a bid of 12 @ 10 resting: it executes against that bid
    ((((Book.new 0 1 true).run ops).placeOrder 4).modifyOrder 0 (some 9) none).trades.drop 1 =
      [{ t := 3, side := .bid, price := 10, vol := 5, active := 0, passive := 4 }] := by
  refine ⟨by decide, ?_, by decide, by decide, by decide, by decide, by decide, by decide, by decide,
    by decide⟩
  simp only [NoFault, and_true]
  decide

/-- **Valid histories never fault, and only they don't.** From a new book with a positive tick, for
operations with volumes ≥ 1 and prices within 32 bits: no overflow, underflow, missing level,
unknown id or exhausted loop ever happens if and only if every id refers to an existing order and
both side totals and the traded-volume counter are below `2^32` after every operation. -/
theorem valid_histories_are_exactly_the_fault_free_ones (t0 tick : Nat) (trading : Bool) (ht : 0 < tick)
    (ops : List Op) (hv : ∀ op ∈ ops, ValidOp op) :
    NoFault (Book.new t0 tick trading) ops ↔ Feasible (Book.new t0 tick trading) ops :=
  noFault_iff_feasible (inv_new t0 tick trading ht) (by simp [Book.new, P32]) ops hv

/-- **C01 for every valid history**: results and complete observations are the reference engine's. -/
theorem implementation_is_reference_engine_valid (t0 tick : Nat) (trading : Bool) (ops : List Op)
    (h : ValidHistory t0 tick trading ops) (n : Nat) (hn : ∀ i, i < n → i * tick < P32) :
    Book.trace n (Book.new t0 tick trading) ops = Ref.trace n (Ref.init t0 tick trading) ops :=
  implementation_is_reference_engine t0 tick trading h.tick_pos ops h.ops_valid h.noFault n hn

theorem queues_sorted_by_price_valid (t0 tick : Nat) (trading : Bool) (ops : List Op)
    (h : ValidHistory t0 tick trading ops) (sd : Side) :
    let r := Ref.run (Ref.init t0 tick trading) ops
    (r.queue sd).Pairwise (fun i j => Ref.ahead sd (Ref.priceOf r.orders i) (Ref.priceOf r.orders j) = true) :=
  queues_sorted_by_price t0 tick trading h.tick_pos ops h.ops_valid h.noFault sd

/-- Non-vacuity: the history of the example above is a valid history (decided by evaluation), and so
is one that fills the side total to `2^32 - 1`; one unit more is not. -/
example :
    ValidHistory 0 1 true [.cap .ask 5 1 (some 11), .cap .ask 5 2 (some 11), .cap .bid 7 3 (some 11),
      .cap .bid 4 4 (some 9), .modify 3 (some 11) none, .cancel 1] ∧
    Feasible (Book.new 0 1 true) [.cap .ask 4294967290 1 (some 11), .cap .ask 5 2 (some 12)] ∧
    ¬ Feasible (Book.new 0 1 true) [.cap .ask 4294967290 1 (some 11), .cap .ask 6 2 (some 12)] ∧
    ¬ Feasible (Book.new 0 1 true) [.cancel 0] :=
  ⟨⟨by decide, by decide, by decide⟩, by decide, by decide, by decide⟩

end Bourse.Props.C01

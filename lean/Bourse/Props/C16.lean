/-
C16 — built-in agents emit only valid instructions and never abort a simulation.
`RandomAgents` is modelled exactly (integers only). For the noise and momentum agents: the limit
prices they quote are valid in exact rational arithmetic (`Model/PriceHelpers`) and in the correctly
rounded binary64 arithmetic the Rust code performs (`Model/F64`, `Model/FloatAgents`), and a whole
`update` of the float-exact agent models submits only valid instructions and never aborts.
`LogNormal::sample` and `tanh` are parameters of those models: the theorems hold for every such
function, and the correspondence check ties the models to the real agents on every run.
-/
import Bourse.Lemmas.ShuffleBij
import Bourse.Lemmas.FloatAgentsValid

namespace Bourse.Props.C16
open Bourse

/-- `gen::<f32>()` is `k / 2^24` with `k < 2^24`: a draw in `[0, 1)`. -/
theorem genF32_lt (g : Xoro) : g.genF32.1 < 16777216 :=
  FAgents.genF32_lt g

/-- **Probability 0 never happens**: a draw `k/2^24 ≥ 0` is never `< 0/den`. -/
theorem act_p0_never (k den : Nat) : ¬ (k * den < 0 * 16777216) := by simp

/-- **Probability ≥ 1 always happens**: every draw `k/2^24 < 1 ≤ num/den`. -/
theorem act_p1_always (k num den : Nat) (hk : k < 16777216) (hd : 0 < den) (h : den ≤ num) :
    k * den < num * 16777216 := by
  calc k * den < 16777216 * den := Nat.mul_lt_mul_of_pos_right hk hd
    _ ≤ 16777216 * num := Nat.mul_le_mul_left _ h
    _ = num * 16777216 := Nat.mul_comm _ _

/-- With activity rate 0 a random agent does nothing at all: no instruction, environment untouched
(only the generator advances by its one draw). -/
theorem random_rate0_inactive (c : RandomAgents) (n : Nat) (cur : Option Nat) (e : MEnv) (g : Xoro)
    (h0 : c.rateNum = 0) : c.updateOne n cur e g = some (cur, e, g.genF32.2) := by
  simp [RandomAgents.updateOne, h0]

theorem genRange_lt (range fuel : Nat) (g : Xoro) (k : Nat) (g' : Xoro) (hr : 0 < range)
    (h : Xoro.genRange range fuel g = some (k, g')) : k < range :=
  Xoro.genRange_lt range fuel g k g' hr h

theorem genRangeLoHi_bounds (lo hi : Nat) (g : Xoro) (x : Nat) (g' : Xoro)
    (h : Xoro.genRangeLoHi lo hi g = some (x, g')) : lo ≤ x ∧ x < hi := by
  unfold Xoro.genRangeLoHi at h
  split at h
  · cases h
  · rename_i hlt
    obtain ⟨r, hr, ⟨⟩⟩ := Option.map_eq_some_iff.1 h
    have := genRange_lt (hi - lo) Xoro.FUEL g r.1 r.2 (by omega) hr
    omega

/-- The placement branch: exactly one limit order, accepted, with tick and volume inside the
configured ranges. -/
theorem random_place_valid (c : RandomAgents) (n : Nat) (e : MEnv) (g : Xoro)
    (o : Option Nat) (e' : MEnv) (g' : Xoro) (h : c.placeRandom n e g = some (o, e', g')) :
    ∃ side tick vol id, c.tickLo ≤ tick ∧ tick < c.tickHi ∧ c.volLo ≤ vol ∧ vol < c.volHi ∧
       e.placeOrder c.asset side vol n (some (tick * c.tickSize)) = (e', .ok id) ∧ o = some id := by
  revert h
  fun_cases RandomAgents.placeRandom c n e g with
  | case4 si g1 _ tick g2 ht vol g3 hv id hp =>
    intro h
    cases h
    have bt := genRangeLoHi_bounds _ _ _ _ _ ht
    have bv := genRangeLoHi_bounds _ _ _ _ _ hv
    exact ⟨(if si = 0 then .ask else .bid), tick, vol, id, bt.1, bt.2, bv.1, bv.2, Prod.ext rfl hp, rfl⟩
  | _ => nofun

/-- **Every instruction a random agent emits is valid**: it either leaves the environment alone,
or queues a cancellation of the order it holds — which is Active as it looks —, or — only when the order it
holds is NOT Active as it looks, so that a trader never has two live orders of its own making —
submits exactly one limit order whose price is `tick · tick_size` with `tick` inside the configured
tick range (so on the grid), whose volume is inside the configured volume range, carrying its own
trader id. -/
theorem random_update_valid (c : RandomAgents) (n : Nat) (cur : Option Nat) (e : MEnv) (g : Xoro)
    (o : Option Nat) (e' : MEnv) (g' : Xoro) (h : c.updateOne n cur e g = some (o, e', g')) :
    (e' = e ∧ o = cur) ∨
    (∃ id, cur = some id ∧ RandomAgents.orderStatus e c.asset id = some .active ∧
       e' = e.cancelOrder c.asset id ∧ o = none) ∨
    (RandomAgents.holdsActive e c.asset cur = false ∧
     ∃ side tick vol id, c.tickLo ≤ tick ∧ tick < c.tickHi ∧ c.volLo ≤ vol ∧ vol < c.volHi ∧
       e.placeOrder c.asset side vol n (some (tick * c.tickSize)) = (e', .ok id) ∧ o = some id) := by
  revert h
  fun_cases RandomAgents.updateOne c n cur e g with
  | case1 _ hact =>
    intro h
    cases h
    right; left
    cases cur with
    | none => simp [RandomAgents.holdsActive] at hact
    | some id => exact ⟨id, rfl, by simpa [RandomAgents.holdsActive] using hact, rfl, rfl⟩
  | case2 _ hna => exact fun h => .inr (.inr ⟨by simpa using hna, random_place_valid c n e _ o e' g' h⟩)
  | case3 =>
    intro h
    cases h
    exact .inl ⟨rfl, rfl⟩

/-! The tick-grid repair of a clamped sell price (`common.rs`, after `round_price_up`). -/

/-- Whatever the float part produced (in particular `Price::MAX`, which is off the grid for most
tick sizes), `price - price % tick` is on the grid, not above the clamped price and less than one
tick below it. -/
theorem sell_price_repair (price tick : Nat) (ht : 0 < tick) :
    (price - price % tick) % tick = 0 ∧ price - price % tick ≤ price ∧ price < price - price % tick + tick := by
  have h1 := Nat.mod_lt price ht
  have h2 : price % tick ≤ price := Nat.mod_le _ _
  exact ⟨Helpers.sub_mod_mod price tick, Nat.sub_le _ _, by omega⟩

/-- `Price::MAX = 4294967295 = 3·5·17·257·65537` is off the grid for the tick sizes 2, 4, 6, 7, 8, 9, 10
(known finding F-C16-1) and on it for 1, 3, 5. -/
theorem max_price_grid :
    ([1, 2, 3, 4, 5, 6, 7, 8, 9, 10].filter fun t => MAXP % t != 0) = [2, 4, 6, 7, 8, 9, 10] := by decide

/-- Non-vacuity: a random agent with rate 16/16, seed 11 — the model run emits a valid order. -/
example :
    let c : RandomAgents := { asset := 0, orders := [none], tickLo := 8, tickHi := 11, volLo := 4, volHi := 6,
                              tickSize := 2, rateNum := 16, rateDen := 16 }
    let e := MEnv.new 0 [2] 10 true 3
    ((c.updateOne 0 none e (Xoro.seed 11)).map fun r =>
      r.2.1.market.books.map (fun b => b.orders.map (fun x => (x.order.price, x.order.vol, x.order.trader)))) = some [[(16, 4, 0)]] := by
  decide

/-! The limit prices the noise and momentum agents quote: `place_buy_limit_order` /
`place_sell_limit_order` (and their multi-asset twins) in exact arithmetic (`Model/PriceHelpers.lean`,
compared with the real `f64` helpers on dyadic inputs on every run). `dist` is what the price
distribution returned: any finite value of either sign, or `+∞` (`none`). -/

/-- **A buy is quoted on the tick grid, at or below the mid-price the agent observed**, whatever the
price distribution returns. -/
theorem buy_price_valid (mid : Rat) (dist : Option Rat) (tick : Nat) (ht : 0 < tick)
    (h0 : 0 ≤ mid) (h1 : mid ≤ (MAXP : Rat)) :
    Helpers.buyPrice mid dist tick % tick = 0 ∧ (Helpers.buyPrice mid dist tick : Rat) ≤ mid :=
  Helpers.buyPrice_valid mid dist tick ht h0 h1

/-- **A sell is quoted on the tick grid** — also when the rounded price was clamped to `Price::MAX`,
which is off the grid for most tick sizes (finding F-C16-1) — and at or above the observed
mid-price, for every mid-price at least one tick below `Price::MAX`. -/
theorem sell_price_valid (mid : Rat) (dist : Option Rat) (tick : Nat) (ht : 0 < tick)
    (h0 : 0 ≤ mid) (h1 : mid + (tick : Rat) ≤ (MAXP : Rat)) :
    Helpers.sellPrice mid dist tick % tick = 0 ∧ mid ≤ (Helpers.sellPrice mid dist tick : Rat) :=
  Helpers.sellPrice_valid mid dist tick ht h0 h1

/-- The buy and the sell quote are prices a book with that tick size accepts (`create_ok_iff` of
C12: a limit order can be created iff its price is a multiple of the tick), so the agents'
`unwrap()` of the placement result cannot abort the simulation. -/
theorem quoted_prices_accepted (mid : Rat) (dist : Option Rat) (tick : Nat) (ht : 0 < tick)
    (h0 : 0 ≤ mid) (h1 : mid ≤ (MAXP : Rat)) (b : Book) (hb : b.tick = tick) (vol tr : Nat) :
    (∃ id, (b.createOrder .bid vol tr (some (Helpers.buyPrice mid dist tick))).2 = .ok id) ∧
    (∃ id, (b.createOrder .ask vol tr (some (Helpers.sellPrice mid dist tick))).2 = .ok id) := by
  have hbuy := (Helpers.buyPrice_valid mid dist tick ht h0 h1).1
  have hsell : Helpers.sellPrice mid dist tick % tick = 0 := Helpers.sub_mod_mod _ _
  have ok : ∀ sd p, p % tick = 0 → ∃ id, (b.createOrder sd vol tr (some p)).2 = .ok id := by
    intro sd p hp
    obtain ⟨b', h, _⟩ := FAgents.createOrder_of_grid b sd vol tr (some p) (by intro q hq; cases hq; rw [hb]; exact hp)
    exact ⟨_, by rw [h]⟩
  exact ⟨ok _ _ hbuy, ok _ _ hsell⟩

/-- Concrete instances (kernel evaluation), including the unit tests of `common.rs` and the clamp at
both ends: tick 2, mid 100.5. -/
example :
    Helpers.roundPriceUp (some 5) 2 = 6 ∧ Helpers.roundPriceUp (some (21/10)) 2 = 4 ∧
    Helpers.roundPriceDown (some (39/10)) 4 = 0 ∧ Helpers.roundPriceDown (some (-22/10)) 4 = 0 ∧
    Helpers.roundPriceUp (some (4294967297 : Rat)) 4 = 4294967295 ∧
    Helpers.buyPrice (201/2) (some (7/4)) 2 = 98 ∧ Helpers.sellPrice (201/2) (some (7/4)) 2 = 104 ∧
    Helpers.buyPrice (201/2) (some 1000) 2 = 0 ∧ Helpers.sellPrice (201/2) none 2 = 4294967294 ∧
    Helpers.sellPrice (201/2) (some 5000000000) 7 = 4294967292 := by decide +kernel

/-! The same quotes in the arithmetic the Rust code performs, correctly rounded binary64.
`Model/F64.lean` models `f64` (`rnd` = round to nearest, ties to even, 53-bit significand, subnormals,
overflow to infinity; compared with the hardware on every run) and `Model/FloatAgents.lean` the helpers
of `common.rs` over it. The mid-price an agent observes is a half-integer `k/2` with `k ≤ 2·Price::MAX`
(`bid + 0.5·(ask − bid)` of `u32` touch prices, exact in `f64`). -/

/-- The rounding function `rnd` is monotone. -/
theorem f64_rounding_monotone {x y : Rat} (h : x ≤ y) : F64.le (F64.rnd x) (F64.rnd y) := F64.rnd_mono h

/-- `rnd` fixes half-integers below `2^53` (every mid-price and every price). -/
theorem f64_half_integers_exact (k : Nat) (hk : k < 9007199254740992) :
    F64.rnd ((k : Rat) / 2) = .fin ((k : Rat) / 2) := F64.rnd_half k hk

/-- In the normal range `rnd x` is within relative distance `2^-53` of `x`. -/
theorem f64_rounding_error {x : Rat} (hx : 0 < x) (hlo : F64.pow2 (-1022) ≤ x) (hhi : x < F64.pow2 1023) :
    ∃ y : Rat, F64.rnd x = .fin y ∧ |y - x| ≤ x * F64.pow2 (-53) := F64.rnd_err hx hlo hhi

/-- **Buy quotes, in `f64`**: for EVERY sample `d` of the price distribution (finite of either sign,
infinite, NaN), every tick size and every observed mid-price `k/2 ∈ [0, Price::MAX]`, the price
`place_buy_limit_order(_market)` computes in binary64 is on the tick grid and at or below the mid. -/
theorem buy_price_valid_f64 (k t : Nat) (ht : 0 < t) (htm : t ≤ 4294967295) (hk : k ≤ 8589934590) (d : F) :
    FAgents.buyPrice (.fin ((k : Rat) / 2)) d t % t = 0 ∧
    (FAgents.buyPrice (.fin ((k : Rat) / 2)) d t : Rat) ≤ (k : Rat) / 2 :=
  FAgents.buyPrice_valid k t ht htm hk d

/-- **Sell quotes, in `f64`**: for every non-NaN sample, every tick size and every observed mid-price
at least one tick below `Price::MAX`, the price `place_sell_limit_order(_market)` computes in binary64
(with the grid repair after the clamp) is on the tick grid and at or above the mid. -/
theorem sell_price_valid_f64 (k t : Nat) (ht : 0 < t) (htm : t ≤ 4294967295) (hk : k + 2 * t ≤ 8589934590)
    (d : F) (hd : d ≠ .nan) :
    FAgents.sellPrice (.fin ((k : Rat) / 2)) d t % t = 0 ∧
    (k : Rat) / 2 ≤ (FAgents.sellPrice (.fin ((k : Rat) / 2)) d t : Rat) :=
  FAgents.sellPrice_valid k t ht htm hk d hd

/-- A sell quote is on the grid for every sample whatsoever, so the `unwrap()` of its placement never
aborts. -/
theorem sell_price_on_grid_f64 (mid d : F) (t : Nat) : FAgents.sellPrice mid d t % t = 0 :=
  FAgents.sellPrice_grid mid d t

/-- Concrete `f64` instances by kernel evaluation: tick 2, mid 100.5; a sample that is not dyadic
(0.1 = 0x3FB999999999999A), the clamp at both ends, NaN. -/
example :
    FAgents.buyPrice (.fin (201/2)) (F64.ofBits 0x3FB999999999999A) 2 = 100 ∧
    FAgents.sellPrice (.fin (201/2)) (F64.ofBits 0x3FB999999999999A) 2 = 102 ∧
    FAgents.buyPrice (.fin (201/2)) .pinf 2 = 0 ∧ FAgents.sellPrice (.fin (201/2)) .pinf 2 = 4294967294 ∧
    FAgents.buyPrice (.fin (201/2)) .nan 2 = 0 ∧
    F64.add (F64.ofBits 0x3FB999999999999A) (F64.ofBits 0x3FC999999999999A) = F64.ofBits 0x3FD3333333333334 := by
  decide +kernel

/-! Whole updates of the noise and momentum agents. `Model/FloatAgents.lean` models `NoiseAgent(Market)::update` and `MomentumAgent(Market)::update` in full
(cancellation pass with its `f32` draws, the trader loop, the `f64` prices); the correspondence check
requires it to predict every real update exactly. `LogNormal::sample` is an arbitrary function `smp` of
the generator state, `tanh` an arbitrary function `th`: the theorems hold for all of them. -/

/-- **Every instruction a noise agent submits is valid.** -/
theorem noise_update_valid (c : FAgents.NoiseP) (smp : FAgents.Sampler) (orders : List Nat) (e : MEnv) (g : Xoro)
    (b : Book) (hb : e.market.books[c.asset]? = some b) (hq : FAgents.QuoteOk b.mid2 c.tick smp)
    {live' e' g'} (h : FAgents.noiseUpdate c smp orders e g = some (live', e', g')) :
    FAgents.Reach c.asset c.tick c.vol c.traders ((b.mid2 : Rat) / 2) orders true true e e' :=
  FAgents.noiseUpdate_reach c smp orders e g b hb hq h

/-- **Every instruction a momentum agent submits is valid**, buys only while `0 < M`, sells only
while `M < 0`. -/
theorem momentum_update_valid (c : FAgents.MomP) (smp : FAgents.Sampler) (th : F → F) (s : FAgents.MomState) (e : MEnv) (g : Xoro)
    (b : Book) (hb : e.market.books[c.asset]? = some b) (hq : FAgents.QuoteOk b.mid2 c.tick smp)
    {s' e' g'} (h : FAgents.momUpdate c smp th s e g = some (s', e', g')) :
    FAgents.Reach c.asset c.tick c.vol c.traders ((b.mid2 : Rat) / 2) s.orders
      (F64.lt (.fin 0) (FAgents.signal c th s (.fin ((b.mid2 : Rat) / 2))).1)
      (F64.lt (FAgents.signal c th s (.fin ((b.mid2 : Rat) / 2))).1 (.fin 0)) e e' :=
  (FAgents.momUpdate_reach c smp th s e g b hb hq h).1

/-- **Neither agent ever aborts the simulation** when it is consistent with the environment (its
asset exists with its tick size; the orders it tracks exist) — for every sampler, NaN and infinities
included, every `tanh`, every probability / decay / demand / scale / ratio, every generator state. -/
theorem noise_update_never_aborts (c : FAgents.NoiseP) (smp : FAgents.Sampler) (orders : List Nat) (e : MEnv) (g : Xoro)
    (b : Book) (hb : e.market.books[c.asset]? = some b) (ht : b.tick = c.tick) (hpos : 0 < c.tick) (hu32 : c.tick ≤ 4294967295)
    (hmid : b.mid2 ≤ 8589934590) (htracked : ∀ id ∈ orders, id < b.orders.length) :
    ∃ r, FAgents.noiseUpdate c smp orders e g = some r :=
  FAgents.noiseUpdate_ok c smp orders e g b hb ht hpos hu32 hmid htracked

theorem momentum_update_never_aborts (c : FAgents.MomP) (smp : FAgents.Sampler) (th : F → F) (s : FAgents.MomState) (e : MEnv) (g : Xoro)
    (b : Book) (hb : e.market.books[c.asset]? = some b) (ht : b.tick = c.tick) (hpos : 0 < c.tick) (hu32 : c.tick ≤ 4294967295)
    (hmid : b.mid2 ≤ 8589934590) (htracked : ∀ id ∈ s.orders, id < b.orders.length) :
    ∃ r, FAgents.momUpdate c smp th s e g = some r :=
  FAgents.momUpdate_ok c smp th s e g b hb ht hpos hu32 hmid htracked

/-- The activity corners for the uniform draws these agents use (`f32` and `f64`, both in `[0, 1)`):
a probability that is not positive never acts, one that is at least 1 always acts. -/
theorem float_draws_in_unit_interval (g : Xoro) :
    (∃ q : Rat, (FAgents.genF32 g).1 = .fin q ∧ 0 ≤ q ∧ q < 1) ∧ (∃ q : Rat, (FAgents.genF64 g).1 = .fin q ∧ 0 ≤ q ∧ q < 1) :=
  ⟨FAgents.genF32_range g, FAgents.genF64_range g⟩

theorem probability_0_never_acts (q : Rat) (hq : 0 ≤ q) (p : F) (hp : F64.lt (.fin 0) p = false) : F64.lt (.fin q) p = false :=
  FAgents.draw_not_below_nonpos q hq p hp

theorem probability_1_always_acts (q : Rat) (hq : q < 1) (p : F) (hp : FAgents.ge p (.fin 1) = true) : F64.lt (.fin q) p = true :=
  FAgents.draw_below_ge_one q hq p hp

def exEnv : MEnv :=
  let e := MEnv.new 0 [2] 10 true 3
  let e := (e.placeOrder 0 .bid 5 9 (some 100)).1
  let e := (e.placeOrder 0 .ask 5 9 (some 102)).1
  (e.step (Xoro.seed 1)).1
def exNoise : FAgents.NoiseP := { asset := 0, tick := 2, vol := 3, traders := [7, 8], pLimit := .fin 1, pMarket := .fin 0, pCancel := .fin 0 }
def exSmp : FAgents.Sampler := fun g => (.fin (7/4), g)

/-- Non-vacuity: a noise agent (p_limit = 1, p_market = 0, p_cancel = 0; two traders; tick 2) on a book
with mid 100.5 and a sampler returning 7/4: the update succeeds and places two limit orders on the grid
on the right side of the mid. The book's `mid2` is 202, which with tick 2 and a sampler that never
returns NaN is all that `QuoteOk` asks. -/
example :
    ((FAgents.noiseUpdate exNoise exSmp [] exEnv (Xoro.seed 5)).map fun r =>
      (r.1, (r.2.1.market.books.map fun b => (b.orders.drop 2).map fun x =>
        [(if x.order.side = .bid then 1 else 0), x.order.price, x.order.vol, x.order.trader]))) =
      some ([2, 3], [[[0, 104, 3, 7], [1, 98, 3, 8]]]) ∧
    (exEnv.market.books.map (·.mid2)) = [202] := by
  decide +kernel

end Bourse.Props.C16

/-
C08 — a simulation step applies exactly the queued instructions, once each, as a batch.
The property theorems and the definitions they are stated with.
-/
import Bourse.Props.C14
import Bourse.Lemmas.ShuffleBij
import Bourse.Lemmas.EnvInv
import Bourse.Props.C01
import Bourse.Props.C03
import Bourse.Props.C04
import Bourse.Props.C12

namespace Bourse.Props.C08
open Bourse

/-- The market operations one step performs on an (already shuffled) batch: the `i`-th
instruction is preceded by setting the clock to `start + i`. -/
def batchOps (start : Nat) : Nat → List Instr → List Market.MOp
  | _, [] => []
  | i, (a, ev) :: rest => .time (start + i) :: .on a (.ev ev) :: batchOps start (i + 1) rest

/-- Everything a step does to the market, as a plain operation sequence. -/
def stepOps (start stepSize : Nat) (batch : List Instr) : List Market.MOp :=
  [.resetVol] ++ batchOps start 0 batch ++ [.time (start + stepSize)]

theorem processBatch_run (m : Market) (start i : Nat) (batch : List Instr) :
    MEnv.processBatch m start i batch = m.run (batchOps start i batch) := by
  induction batch generalizing m i with
  | nil => rfl
  | cons x rest ih =>
    obtain ⟨a, ev⟩ := x
    simp only [MEnv.processBatch, batchOps, Market.run, List.foldl_cons]
    rw [ih]
    rfl

/-- **A step is a replay.** The market after a step is exactly the market obtained by running,
on the market as it stood: reset the traded-volume counters; for `i = 0, 1, …` set the clock to
`start + i` and process the `i`-th instruction of the batch; set the clock to `start + step_size`.
Nothing else is applied. -/
theorem step_is_replay (e : MEnv) (batch : List Instr) :
    (e.stepWith batch).market = e.market.run (stepOps e.market.time e.stepSize batch) := by
  simp only [MEnv.stepWith, stepOps, processBatch_run, Market.run, List.foldl_append, List.foldl_cons,
    List.foldl_nil]
  rfl

/-- … and therefore **each asset's book after the step is what a plain order book produces**
when that asset's instructions are replayed on it in the processed order at those times
(C14's projection law applied to the replay). -/
theorem step_is_plain_book_replay (e : MEnv) (batch : List Instr) (a : Nat) :
    (e.stepWith batch).market.books[a]? =
      (e.market.books[a]?).map (fun b =>
        b.run ((stepOps e.market.time e.stepSize batch).filterMap (C14.project a))) := by
  rw [step_is_replay]
  exact C14.market_projection _ _ _

/-- **Exactly the queued instructions, once each.** The batch a step processes is a permutation
of the queue (whatever the generator state), the generator is the only other input, and the
queue is empty afterwards. -/
theorem step_processes_queue_once (e : MEnv) (g : Xoro) (batch : List Instr) (g' : Xoro)
    (h : Xoro.shuffle e.queue g = some (batch, g')) :
    e.step g = (e.stepWith batch, g') ∧ batch.Perm e.queue ∧ (e.step g).1.queue = [] := by
  refine ⟨by simp [MEnv.step, h], Xoro.shuffle_perm h, by simp [MEnv.step, h, MEnv.stepWith]⟩

/-- The `i`-th processed instruction runs with the clock at exactly `start + i`. -/
theorem batch_times (start i : Nat) (batch : List Instr) (k : Nat) (x : Instr) (h : batch[k]? = some x) :
    (batchOps start i batch)[2 * k]? = some (.time (start + i + k)) ∧
    (batchOps start i batch)[2 * k + 1]? = some (.on x.1 (.ev x.2)) := by
  induction batch generalizing i k with
  | nil => cases h
  | cons y rest ih =>
    cases k with
    | zero => cases h; exact ⟨rfl, rfl⟩
    | succ k =>
      -- `batchOps` puts two operations in front of those of the rest, which are numbered from `i + 1`
      rw [show start + i + (k + 1) = start + (i + 1) + k by omega]
      exact ih (i + 1) k h

/-- **Afterwards** the queue is empty, every asset's clock stands at exactly `start + step_size`,
and one entry has been pushed to every per-asset traded-volume series, namely that asset's
counter (which the step reset to zero before processing). -/
theorem step_post (e : MEnv) (batch : List Instr) :
    (e.stepWith batch).queue = [] ∧
    (∀ b ∈ (e.stepWith batch).market.books, b.t = e.market.time + e.stepSize) ∧
    (e.stepWith batch).tradeVols =
      (e.tradeVols.zip ((e.stepWith batch).market.tradeVols)).map (fun (s, v) => s ++ [v]) := by
  refine ⟨rfl, ?_, rfl⟩
  intro b hb
  obtain ⟨b0, _, rfl⟩ := List.mem_map.mp hb
  rfl

/-- A step with nothing queued changes only the clock, the counters and the records: the market
is the old one with counters reset and the clock advanced. -/
theorem empty_step (e : MEnv) :
    (e.stepWith []).market = (e.market.resetTradeVols).setTime (e.market.time + e.stepSize) := rfl

/-- Non-vacuity: a two-asset environment, five queued instructions including a cancel and a modify
for orders created in the same batch; seed 7. The step processes a permutation, the clock lands on
start + step size and the replay equation holds by evaluation. -/
example :
    let e0 := MEnv.new 10 [1, 2] 100 true 3
    let e1 := ((((e0.placeOrder 0 .ask 5 1 (some 10)).1.placeOrder 1 .bid 4 2 (some 8)).1.placeOrder 0 .bid 7 3 (some 10)).1.cancelOrder 1 0).modifyOrder 0 0 (some 9) none
    let r := e1.step (Xoro.seed 7)
    r.1.queue = [] ∧ r.1.market.time = 110 ∧ (r.1.market.books.map (·.trades.length)) = [1, 0] ∧
    r.1.tradeVols = [[5], [0]] := by decide

/-! ### A whole simulation, seen from one asset, is a plain book history

Not just one step: every environment operation is a (possibly empty) sequence of plain market
operations, so the market of an environment after ANY sequence of submissions, queued
cancellations / modifications, trading switches and steps is the market run on the concatenated
plain operations, and (C14's projection law) each asset's book is a stand-alone book run on that
asset's share of them. Every theorem about book histories (C01–C07, C12, C13) therefore speaks about
every asset of every simulation. -/

/-- The plain market operations one environment operation performs. -/
def opMarketOps (e : MEnv) (g : Xoro) : MEnv.EOp → List Market.MOp
  | .submit a sd vol tr p => [.on a (.create sd vol tr p)]
  | .step =>
    match Xoro.shuffle e.queue g with
    | some (batch, _) => stepOps e.market.time e.stepSize batch
    | none => []
  | .trading on => [.trading on]
  | .qcancel _ _ => []
  | .qmodify _ _ _ _ => []

theorem apply_market (e : MEnv) (g : Xoro) (op : MEnv.EOp) :
    (e.apply g op).1.1.market = e.market.run (opMarketOps e g op) := by
  cases op with
  | submit a sd vol tr p => exact MEnv.placeOrder_market e a sd vol tr p
  | qcancel a id | qmodify a id p v => rfl
  | step =>
    simp only [MEnv.apply, MEnv.step, opMarketOps]
    cases hs : Xoro.shuffle e.queue g with
    | none => rfl
    | some r =>
      obtain ⟨batch, g'⟩ := r
      exact step_is_replay e batch
  | trading on => cases on <;> rfl

def envMarketOps : MEnv × Xoro → List MEnv.EOp → List Market.MOp
  | _, [] => []
  | s, op :: rest => opMarketOps s.1 s.2 op ++ envMarketOps (s.1.apply s.2 op).1 rest

/-- **The market of an environment after any history** is the plain market run on the history's
operations. -/
theorem env_history_is_market_history (s : MEnv × Xoro) (ops : List MEnv.EOp) :
    (MEnv.runOps s ops).1.market = s.1.market.run (envMarketOps s ops) := by
  induction ops generalizing s with
  | nil => rfl
  | cons op rest ih =>
    simp only [MEnv.runOps, envMarketOps]
    rw [ih, apply_market, Market.run, Market.run, Market.run, List.foldl_append]

/-- **Each asset's book after any simulation history is a stand-alone book** created with that
asset's tick size and run on that asset's share of the operations, at the same times. -/
theorem env_history_is_book_history (t0 : Nat) (ticks : List Nat) (stepSize : Nat) (trading : Bool) (n : Nat) (g : Xoro)
    (ops : List MEnv.EOp) (a : Nat) :
    (MEnv.runOps (MEnv.new t0 ticks stepSize trading n, g) ops).1.market.books[a]? =
      (ticks[a]?).map fun tk =>
        (Book.new t0 tk trading).run ((envMarketOps (MEnv.new t0 ticks stepSize trading n, g) ops).filterMap (C14.project a)) := by
  rw [env_history_is_market_history, C14.market_projection]
  simp only [MEnv.new, Market.new, List.getElem?_map, Option.map_map]
  rfl

/-- **In every reachable state of a simulation every book satisfies the book invariant** (so all its
published views equal the recomputation from its own orders, it reloads to itself, …). -/
theorem env_books_invariant (t0 : Nat) (ticks : List Nat) (stepSize : Nat) (trading : Bool) (n : Nat) (g : Xoro)
    (ht : ∀ t ∈ ticks, 0 < t) (ops : List MEnv.EOp) (hok : EnvRunOk (MEnv.new t0 ticks stepSize trading n, g) ops) :
    ∀ b ∈ (MEnv.runOps (MEnv.new t0 ticks stepSize trading n, g) ops).1.market.books, Inv b :=
  env_inv_reachable t0 ticks stepSize trading n g ht ops hok

/-- **Every asset of every simulation is the reference matching engine**: the book of asset `a` after
any environment history, forgetting keys / stamps / aggregates, is the state the straightforward
reference engine of C01 reaches on that asset's share of the operations — whenever that share is a
valid, fault-free book history (C01's own condition). One refinement theorem, lifted through the
projection: C01 holds inside simulations. -/
theorem simulation_asset_is_reference_engine (t0 : Nat) (ticks : List Nat) (stepSize : Nat) (trading : Bool) (n : Nat)
    (g : Xoro) (ops : List MEnv.EOp) (a tk : Nat) (htk : ticks[a]? = some tk) (hpos : 0 < tk)
    (hv : ∀ op ∈ (envMarketOps (MEnv.new t0 ticks stepSize trading n, g) ops).filterMap (C14.project a), ValidOp op)
    (hnf : NoFault (Book.new t0 tk trading) ((envMarketOps (MEnv.new t0 ticks stepSize trading n, g) ops).filterMap (C14.project a))) :
    ((MEnv.runOps (MEnv.new t0 ticks stepSize trading n, g) ops).1.market.books[a]?).map abs =
      some (Ref.run (Ref.init t0 tk trading) ((envMarketOps (MEnv.new t0 ticks stepSize trading n, g) ops).filterMap (C14.project a))) := by
  rw [env_history_is_book_history, htk]
  simp only [Option.map_some]
  rw [C01.state_is_reference_state t0 tk trading hpos _ hv hnf]

/-! Three more lifts through the projection, as samples of the general principle (each is the
book-history theorem of the named property applied to `env_history_is_book_history`): -/

/-- C12 in simulations: after any environment history every order of every asset is a market order or
priced on that asset's tick grid — with no hypothesis at all on what was submitted. -/
theorem simulation_prices_on_grid (t0 : Nat) (ticks : List Nat) (stepSize : Nat) (trading : Bool) (n : Nat)
    (g : Xoro) (ops : List MEnv.EOp) (a tk : Nat) (htk : ticks[a]? = some tk) (b : Book)
    (hb : (MEnv.runOps (MEnv.new t0 ticks stepSize trading n, g) ops).1.market.books[a]? = some b) :
    ∀ e ∈ b.orders, Book.isMarket e.order = true ∨ e.order.price % tk = 0 := by
  rw [env_history_is_book_history, htk] at hb
  cases hb
  exact C12.prices_on_grid_always t0 tk trading _

/-- C04 in simulations: an order of any asset that is still New or Active carries no end time. -/
theorem simulation_open_orders_have_no_end_time (t0 : Nat) (ticks : List Nat) (stepSize : Nat) (trading : Bool) (n : Nat)
    (g : Xoro) (ops : List MEnv.EOp) (a tk : Nat) (htk : ticks[a]? = some tk) (hpos : 0 < tk)
    (hv : ∀ op ∈ (envMarketOps (MEnv.new t0 ticks stepSize trading n, g) ops).filterMap (C14.project a), ValidOp op)
    (hnf : NoFault (Book.new t0 tk trading) ((envMarketOps (MEnv.new t0 ticks stepSize trading n, g) ops).filterMap (C14.project a)))
    (b : Book) (hb : (MEnv.runOps (MEnv.new t0 ticks stepSize trading n, g) ops).1.market.books[a]? = some b) :
    ∀ (id : Nat) (e : Entry), b.orders[id]? = some e → isTerminal e.order.status = false → e.order.endt = MAXT := by
  rw [env_history_is_book_history, htk] at hb
  cases hb
  exact C04.open_orders_have_no_end_time t0 tk trading hpos _ hv hnf

/-- C03 in simulations: in a history without explicit volume modifications every order of every asset
has lost exactly the volume of its logged trades, and every record names existing orders. -/
theorem simulation_volume_conserved (t0 : Nat) (ticks : List Nat) (stepSize : Nat) (trading : Bool) (n : Nat)
    (g : Xoro) (ops : List MEnv.EOp) (a tk : Nat) (htk : ticks[a]? = some tk) (hpos : 0 < tk)
    (hv : ∀ op ∈ (envMarketOps (MEnv.new t0 ticks stepSize trading n, g) ops).filterMap (C14.project a), ValidOp op)
    (hm : ∀ op ∈ (envMarketOps (MEnv.new t0 ticks stepSize trading n, g) ops).filterMap (C14.project a), NoVolModify op)
    (hnf : NoFault (Book.new t0 tk trading) ((envMarketOps (MEnv.new t0 ticks stepSize trading n, g) ops).filterMap (C14.project a)))
    (b : Book) (hb : (MEnv.runOps (MEnv.new t0 ticks stepSize trading n, g) ops).1.market.books[a]? = some b) :
    (∀ (id : Nat) (e : Entry), b.orders[id]? = some e → e.order.vol + tradedOf id b.trades = e.order.svol) ∧
    (∀ tr ∈ b.trades, tr.active < b.orders.length ∧ tr.passive < b.orders.length) := by
  rw [env_history_is_book_history, htk] at hb
  cases hb
  exact C03.volume_conserved_history t0 tk trading hpos _ hv hm hnf

/-- The history of the earlier example (three submissions, a queued cancel, a queued modify, one step)
as environment operations. -/
def exOps : List MEnv.EOp :=
  [.submit 0 .ask 5 1 (some 10), .submit 1 .bid 4 2 (some 8), .submit 0 .bid 7 3 (some 10), .qcancel 1 0, .qmodify 0 0 (some 9) none, .step]

/-- Non-vacuity: one trade on asset 0, both clocks at start + step size, fifteen plain market operations,
and no book faulted. -/
example :
    let s0 := (MEnv.new 10 [1, 2] 100 true 3, Xoro.seed 7)
    ((MEnv.runOps s0 exOps).1.market.books.map fun b => (b.trades.length, b.t)) = [(1, 110), (0, 110)] ∧
    (envMarketOps s0 exOps).length = 15 ∧
    ((MEnv.runOps s0 exOps).1.market.books.map fun b => b.faulted) = [false, false] := by
  decide

end Bourse.Props.C08

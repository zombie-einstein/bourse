/-
C09 — a simulation is a pure function of its seed and parameters.
The property theorems and the definitions they are stated with. PARTIAL by nature: address-, hash- or time-dependence are runtime
phenomena no model exhibits; what is proved is that the modelled runner has no input other than
(seed, parameters), threads exactly one generator, and that the two progress-bar branches of the
real runners (translated from runner.rs on every run) are the same loop.
-/
import Bourse.Generated.RunnerBranches
import Bourse.Lemmas.SimHistory

namespace Bourse.Props.C09
open Bourse
open Bourse.Generated.Runner

/-- The loop body the model `simLoop` implements: update the agents, then step the environment,
both on the one generator. -/
def modelBody : List String :=
  ["agents", ".", "update", "(", "env", ",", "&", "mut", "rng", ")", ";",
   "env", ".", "step", "(", "&", "mut", "rng", ")", ";"]

def modelPre : List String :=
  ["let", "mut", "rng", "=", "Xoroshiro128StarStar", "::", "seed_from_u64", "(", "seed", ")", ";"]

/-- **The two progress-bar branches are the same loop** (on the source as translated on this run): same range,
same body, the only difference being the `tqdm!` wrapper around the range; and that body is the
one the model implements; the generator is created from the seed and nothing else precedes or
follows the loop. -/
theorem runner_branches_equal :
    sim_runner_true_body = sim_runner_false_body ∧ sim_runner_true_range = sim_runner_false_range ∧
    sim_runner_false_body = modelBody ∧ sim_runner_false_range = ["0", "..", "n_steps"] ∧
    sim_runner_pre = modelPre ∧ sim_runner_post = [] ∧
    sim_runner_true_wrapper = "tqdm!" ∧ sim_runner_false_wrapper = "" :=
  ⟨rfl, rfl, rfl, rfl, rfl, rfl, rfl, rfl⟩

theorem market_runner_branches_equal :
    market_sim_runner_true_body = market_sim_runner_false_body ∧
    market_sim_runner_true_range = market_sim_runner_false_range ∧
    market_sim_runner_false_body = modelBody ∧ market_sim_runner_false_range = ["0", "..", "n_steps"] ∧
    market_sim_runner_pre = modelPre ∧ market_sim_runner_post = [] ∧
    market_sim_runner_true_wrapper = "tqdm!" ∧ market_sim_runner_false_wrapper = "" :=
  ⟨rfl, rfl, rfl, rfl, rfl, rfl, rfl, rfl⟩

theorem simLoop_succ (n : Nat) (as : List RandomAgents) (e : MEnv) (g : Xoro) :
    simLoop (n + 1) as e g =
      (updateAll as e g).bind (fun r => simLoop n r.1 (r.2.1.step r.2.2).1 (r.2.1.step r.2.2).2) := by
  simp only [simLoop]
  cases updateAll as e g with
  | none => rfl
  | some r => rfl

/-- **A run is a fold**: running `n + m` steps is running `n` steps and then `m` more from the
state (agents, environment, generator) that the first `n` left — nothing else is carried over. -/
theorem simLoop_add (n m : Nat) (as : List RandomAgents) (e : MEnv) (g : Xoro) :
    simLoop (n + m) as e g = (simLoop n as e g).bind (fun r => simLoop m r.1 r.2.1 r.2.2) := by
  induction n generalizing as e g with
  | zero => simp [simLoop]
  | succ n ih =>
    rw [show n + 1 + m = (n + m) + 1 by omega, simLoop_succ, simLoop_succ]
    cases updateAll as e g with
    | none => rfl
    | some r => exact ih _ _ _

/-- **Same seed and parameters, same run**: the whole outcome (agents' holdings, every order, trade,
record, and the generator state) is a function of the seed, the environment parameters, the
agents and the step count. -/
theorem run_deterministic (e1 e2 : MEnv) (as1 as2 : List RandomAgents) (s1 s2 n1 n2 : Nat)
    (he : e1 = e2) (ha : as1 = as2) (hs : s1 = s2) (hn : n1 = n2) :
    simRunner e1 as1 s1 n1 = simRunner e2 as2 s2 n2 := by
  subst he ha hs hn; rfl

/-- Non-vacuity and a concrete prediction: three random agents, seed 37396, five steps — the
model run exists (no abort) and produces orders; a different seed gives a different run. -/
example :
    let e := MEnv.new 11 [2] 4 true 10
    let ag : RandomAgents := { asset := 0, orders := [none, none, none], tickLo := 8, tickHi := 11, volLo := 4,
                               volHi := 6, tickSize := 2, rateNum := 8, rateDen := 16 }
    ((simRunner e [ag] 37396 5).map fun r => r.2.1.market.books.map (·.orders.map (·.order.price))) = some [[16, 16, 16, 18, 18, 16]] ∧
    ((simRunner e [ag] 37396 5).map fun r => r.2.1.market.books.map (·.orders.map (·.order.price))) ≠
      ((simRunner e [ag] 37397 5).map fun r => r.2.1.market.books.map (·.orders.map (·.order.price))) := by
  decide

theorem simLoopG_succ (th : F → F) (n : Nat) (as : SimAgents) (e : MEnv) (g : Xoro) :
    simLoopG th (n + 1) as e g =
      (as.updateAll th e g).bind (fun r => simLoopG th n r.1 (r.2.1.step r.2.2).1 (r.2.1.step r.2.2).2) := by
  simp only [simLoopG]
  cases as.updateAll th e g with
  | none => rfl
  | some r => rfl

/-- **A run is a fold, for every composition of agents**: `n + m` steps are `n` steps and then `m`
more from the state (agents, environment, generator) the first `n` left; nothing else is carried. -/
theorem simLoopG_add (th : F → F) (n m : Nat) (as : SimAgents) (e : MEnv) (g : Xoro) :
    simLoopG th (n + m) as e g = (simLoopG th n as e g).bind (fun r => simLoopG th m r.1 r.2.1 r.2.2) := by
  induction n generalizing as e g with
  | zero => simp [simLoopG]
  | succ n ih =>
    rw [show n + 1 + m = (n + m) + 1 by omega, simLoopG_succ, simLoopG_succ]
    cases as.updateAll th e g with
    | none => rfl
    | some r => exact ih _ _ _

/-- Same seed, environment, agents (parameters, samplers, private states), `tanh` and step count:
the same run — orders, trades, records, agents' states and the generator. -/
theorem general_run_deterministic (th : F → F) (e1 e2 : MEnv) (as1 as2 : SimAgents) (s1 s2 n1 n2 : Nat)
    (he : e1 = e2) (ha : as1 = as2) (hs : s1 = s2) (hn : n1 = n2) :
    simRunnerG th e1 as1 s1 n1 = simRunnerG th e2 as2 s2 n2 := by
  subst he ha hs hn; rfl

/-- **An update of any agent or derived set of agents is a sequence of environment submissions**
(so the generator is the only thing besides the environment it reads, and `place_order` /
`cancel_order` the only way it acts). -/
theorem agent_update_is_submissions (th : F → F) (a : SimAgent) (e : MEnv) (g : Xoro) (a' : SimAgent) (e' : MEnv) (g' : Xoro)
    (h : a.update th e g = some (a', e', g')) :
    ∃ ops : List MEnv.EOp, (∀ op ∈ ops, Props.C10.IsSubmission op) ∧ ∀ g0, MEnv.runOps (e, g0) ops = (e', g0) :=
  SimAgent.update_subs th a e g a' e' g' h

/-- **A whole simulation is a history of environment operations**: for every composition of agents,
every sampler, every `tanh`, every seed and step count, the final environment is reached from the
initial one by submissions and steps only — so the theorems about environment histories (C08, C10,
C11, C14) and, per asset, about book histories speak about every simulation. -/
theorem simulation_is_environment_history (th : F → F) (e : MEnv) (as : SimAgents) (seed steps : Nat)
    (as' : SimAgents) (e' : MEnv) (g' : Xoro) (h : simRunnerG th e as seed steps = some (as', e', g')) :
    SimReach e e' :=
  simLoopG_reach th steps as e _ as' e' g' h

/-- … in particular nothing an agent does between two steps is visible before the next step: the
cached level-2 data, every recorded series and the per-step volumes are unchanged by any update, and
every book only gains New orders. -/
theorem agent_update_invisible (th : F → F) (as : SimAgents) (e : MEnv) (g : Xoro) (as' : SimAgents) (e' : MEnv) (g' : Xoro)
    (h : as.updateAll th e g = some (as', e', g')) :
    e'.l2 = e.l2 ∧ e'.records = e.records ∧ e'.tradeVols = e.tradeVols ∧ Props.C10.MarketExt e.market e'.market := by
  have u := (SimAgents.updateAll_subs th as e g as' e' g' h).unseen
  exact ⟨u.l2, u.records, u.tradeVols, u.market⟩

/-- Non-vacuity: a derived set holding a nested set with random agents, five steps: the general
runner produces exactly the run of the special-purpose loop `simRunner` (the one tied bit for bit to
real simulations). -/
example :
    let e := MEnv.new 11 [2] 4 true 10
    let ag : RandomAgents := { asset := 0, orders := [none, none, none], tickLo := 8, tickHi := 11, volLo := 4,
                               volHi := 6, tickSize := 2, rateNum := 8, rateDen := 16 }
    ((simRunnerG (fun x => x) e (.cons (.set (.cons (.random ag) .nil)) .nil) 37396 5).map
        fun r => r.2.1.market.books.map (·.orders.map (·.order.price))) =
      ((simRunner e [ag] 37396 5).map fun r => r.2.1.market.books.map (·.orders.map (·.order.price))) := by
  decide +kernel

end Bourse.Props.C09

/-
C03 — the trade ledger is complete, exact and conserves volume. `Extends` (what one operation may
do to the log) and `subjectOf` (the order an operation places or re-prices) are the two notions the
statements use.
-/
import Bourse.Lemmas.RefTransfer
import Bourse.Lemmas.NoOverflow

namespace Bourse.Props.C03
open Bourse

/-- `b'` extends the ledger of `b`: the old records are an unchanged prefix, and the cumulative
counter grew by exactly the volume of the new records. -/
def Extends (b b' : Book) : Prop :=
  ∃ new : List Trade, b'.trades = b.trades ++ new ∧
    b'.tradeVol = b.tradeVol + (new.map (·.vol)).sum ∧
    (∀ tr ∈ new, tr.t = b.t) ∧ b'.t = b.t

theorem Extends.of_eq {b b' : Book} (h1 : b'.trades = b.trades) (h2 : b'.tradeVol = b.tradeVol)
    (h3 : b'.t = b.t) : Extends b b' := ⟨[], by simp [h1, h2, h3]⟩

/-- **Ledger step.** For every operation other than a clock change or a counter reset: the records
already in the log are unchanged (the new log is the old one plus a suffix), every new record is
stamped with the book time of the operation, and the cumulative counter grows by exactly the sum
of the new records' volumes. -/
theorem ledger_step (b : Book) (op : Op) (h1 : ∀ t, op ≠ .time t) (h2 : op ≠ .resetVol) :
    Extends b (b.step op).1 := by
  by_cases ha : op.Admin
  · cases ha with
    | time t => exact absurd rfl (h1 t)
    | trading on => cases on <;> exact Extends.of_eq rfl rfl rfl
    | resetVol => exact absurd rfl h2
  · have hf := Book.step_opFrame b op ha
    obtain ⟨new, e, v, t⟩ := hf.ledger
    exact ⟨new, e, v, t, hf.t⟩

/-- A clock change and a counter reset never touch the log; the reset sets the counter to 0. -/
theorem time_reset_ledger (b : Book) (t : Nat) :
    (b.step (.time t)).1.trades = b.trades ∧ (b.step (.time t)).1.tradeVol = b.tradeVol ∧
    (b.step .resetVol).1.trades = b.trades ∧ (b.step .resetVol).1.tradeVol = 0 := by
  simp [Book.step, Book.setTime, Book.resetTradeVol]

theorem trades_prefix_step (b : Book) (op : Op) : ∃ new, (b.step op).1.trades = b.trades ++ new := by
  by_cases ha : op.Admin
  · exact ⟨[], by rw [(Book.admin_frame b ha).trades, List.append_nil]⟩
  · obtain ⟨new, h, _⟩ := (Book.step_opFrame b op ha).ledger
    exact ⟨new, h⟩

/-- **Records already in the log never change**, over any history: the log after any sequence
of operations has the log before it as a prefix. -/
theorem ledger_run_prefix (b : Book) (ops : List Op) :
    ∃ new, (b.run ops).trades = b.trades ++ new := by
  induction ops generalizing b with
  | nil => exact ⟨[], (List.append_nil _).symm⟩
  | cons op ops ih =>
    obtain ⟨n1, h1⟩ := trades_prefix_step b op
    obtain ⟨n2, h2⟩ := ih (b.step op).1
    refine ⟨n1 ++ n2, ?_⟩
    rw [← List.append_assoc, ← h1]
    exact h2

/-- Non-vacuity: a history with a multi-fill aggressor, a modification that trades and a reset. -/
example :
    let b0 := Book.new 0 1 true
    let b := b0.run [.cap .ask 5 1 (some 10), .time 1, .cap .ask 5 2 (some 11), .time 2,
      .cap .bid 7 3 (some 11), .time 3, .cap .bid 2 4 (some 9), .resetVol, .time 4, .modify 3 (some 11) (some 4)]
    b.trades.length = 3 ∧ b.tradeVol = 3 ∧ (b.trades.map (·.vol)) = [5, 2, 3] := by decide

/-- **Every new record is a real fill.** In any state satisfying the invariant (every reachable
state), a valid operation that does not fault appends records each of which: is stamped with the
book time; has a positive volume; names two different orders that exist in the table after the
operation; the passive order is on the record's side at exactly the record's price; the aggressive
order is on the opposite side and its limit admits the price (for a market order the limit is the
sentinel 0 / maximum price, which admits every price). -/
theorem new_records_wellformed {b : Book} (h : Inv b) (op : Op) (hv : ValidOp op)
    (hnf : (b.step op).1.faulted = false) :
    ∃ new, (b.step op).1.trades = b.trades ++ new ∧
      ∀ tr ∈ new, TradeFinal b.t ((b.step op).1.orders.map (·.order)) tr := by
  obtain ⟨new, e, w, _, _⟩ := step_ledger h op hv hnf
  exact ⟨new, e, w⟩

/-- **Volume conservation, one operation.** Every order that exists before the operation exists
after it with the same id, side, trader and starting volume, and its remaining volume plus the
volume of the NEW records it takes part in equals the volume the operation explicitly gives it —
its previous volume, unless the operation is an accepted volume modification of that very order. -/
theorem volume_conserved_step {b : Book} (h : Inv b) (op : Op) (hv : ValidOp op)
    (hnf : (b.step op).1.faulted = false) :
    ∃ new, (b.step op).1.trades = b.trades ++ new ∧
      ∀ (id : Nat) (e : Entry), b.orders[id]? = some e →
        ∃ e', (b.step op).1.orders[id]? = some e' ∧
          e'.order.vol + tradedOf id new = volRequested b.tick op id e.order ∧
          e'.order.id = e.order.id ∧ e'.order.side = e.order.side ∧ e'.order.trader = e.order.trader ∧
          e'.order.svol = e.order.svol := by
  obtain ⟨new, e, _, c, _⟩ := step_ledger h op hv hnf
  refine ⟨new, e, ?_⟩
  intro id en hen
  obtain ⟨o', ho', hr⟩ := c id en.order (abs_get_of hen)
  obtain ⟨e', he', rfl⟩ := abs_get_some.mp ho'
  exact ⟨e', he', hr⟩

/-- **Volume conservation, whole histories.** After any valid fault-free history from a new book
that contains no explicit volume modification, for every order: remaining volume + total volume of
its logged trades = starting volume; and every logged trade names two existing orders. -/
theorem volume_conserved_history (t0 tick : Nat) (trading : Bool) (ht : 0 < tick) (ops : List Op)
    (hv : ∀ op ∈ ops, ValidOp op) (hm : ∀ op ∈ ops, NoVolModify op)
    (hnf : NoFault (Book.new t0 tick trading) ops) :
    let b := (Book.new t0 tick trading).run ops
    (∀ (id : Nat) (e : Entry), b.orders[id]? = some e → e.order.vol + tradedOf id b.trades = e.order.svol) ∧
    (∀ tr ∈ b.trades, tr.active < b.orders.length ∧ tr.passive < b.orders.length) := by
  intro b
  have hl := ledger_run (inv_new t0 tick trading ht) (ledgerInv_new t0 tick trading) ops hv hm hnf
  refine ⟨fun id e he => hl.cons id e.order (abs_get_of he), fun tr htr => ?_⟩
  simpa [abs, absOrders] using hl.refs tr htr

/-- Non-vacuity: the history of the earlier example without its volume modification satisfies the
hypotheses, trades, and conserves. -/
example :
    let b := (Book.new 0 1 true).run [.cap .ask 5 1 (some 10), .time 1, .cap .ask 5 2 (some 11), .time 2,
      .cap .bid 7 3 (some 11), .time 3, .cap .bid 2 4 (some 9), .time 4, .modify 3 (some 11) none]
    (b.orders.map fun e => (e.order.vol, e.order.svol)) = [(0, 5), (1, 5), (0, 7), (0, 2)] ∧
    (List.range 4).map (fun id => tradedOf id b.trades) = [5, 4, 7, 2] := by decide

/-- `volume_conserved_history` for valid histories as the property states them. -/
theorem volume_conserved_history_valid (t0 tick : Nat) (trading : Bool) (ops : List Op)
    (h : ValidHistory t0 tick trading ops) (hm : ∀ op ∈ ops, NoVolModify op) :
    let b := (Book.new t0 tick trading).run ops
    (∀ (id : Nat) (e : Entry), b.orders[id]? = some e → e.order.vol + tradedOf id b.trades = e.order.svol) ∧
    (∀ tr ∈ b.trades, tr.active < b.orders.length ∧ tr.passive < b.orders.length) :=
  volume_conserved_history t0 tick trading h.tick_pos ops h.ops_valid hm h.noFault

/-- The order an operation places or re-prices (`none`: the operation cannot trade). -/
def subjectOf (b : Book) : Op → Option Nat
  | .place i | .ev (.new i) | .modify i _ _ | .ev (.modify i _ _) => some i
  | .cap .. => some b.orders.length
  | _ => none

theorem subject_abs (b : Book) (op : Op) : Ref.subject (abs b) op = subjectOf b op := by
  cases op with
  | ev e => cases e <;> rfl
  | cap sd vol tr p => simp [Ref.subject, subjectOf, abs, absOrders]
  | _ => rfl

/-- **"… the ids of the aggressive and the passive order"**: in every reachable state, every record a
valid operation appends names as its aggressive order exactly the order that operation placed or
re-priced (for `create_and_place_order` the id it returns); an operation that places or re-prices
nothing — creation alone, cancellation, clock, switches, counter reset, reload — appends nothing. -/
theorem aggressor_is_the_operations_order (t0 tick : Nat) (trading : Bool) (ht : 0 < tick) (ops : List Op)
    (hv : ∀ op ∈ ops, ValidOp op) (hnf : NoFault (Book.new t0 tick trading) ops) (op : Op) (hvo : ValidOp op)
    (hnfo : (((Book.new t0 tick trading).run ops).step op).1.faulted = false) :
    let b := (Book.new t0 tick trading).run ops
    ∃ new, (b.step op).1.trades = b.trades ++ new ∧ ∀ tr ∈ new, subjectOf b op = some tr.active := by
  intro b
  obtain ⟨new, h1, h2⟩ := book_step_active (inv_reachable t0 tick trading ht ops hv hnf) op hvo hnfo
  exact ⟨new, h1, fun tr htr => subject_abs b op ▸ h2 tr htr⟩

/-- … and the passive order of every record appended by placing an existing order or by a modification
was RESTING (Active, queued) before the operation — in every reachable state; `create_and_place_order`
included. (The other operations append nothing, `aggressor_is_the_operations_order`.) -/
theorem passive_order_was_resting (t0 tick : Nat) (trading : Bool) (ht : 0 < tick) (ops : List Op)
    (hv : ∀ op ∈ ops, ValidOp op) (hnf : NoFault (Book.new t0 tick trading) ops) (op : Op) (hvo : ValidOp op)
    (hnfo : (((Book.new t0 tick trading).run ops).step op).1.faulted = false)
    (hop : (∃ i, op = .place i) ∨ (∃ i, op = .ev (.new i)) ∨ (∃ i p v, op = .modify i p v) ∨ (∃ i p v, op = .ev (.modify i p v)) ∨
      (∃ sd vol tr p, op = .cap sd vol tr p)) :
    let b := (Book.new t0 tick trading).run ops
    ∃ new, (b.step op).1.trades = b.trades ++ new ∧
      ∀ tr ∈ new, ∃ e, b.orders[tr.passive]? = some e ∧ e.order.status = .active :=
  book_passive_was_resting (inv_reachable t0 tick trading ht ops hv hnf) op hvo hnfo hop

/-- Non-vacuity: the OLDER order (id 0, created first, placed last) is the aggressor of the record. -/
example :
    let b := (Book.new 0 1 true).run [.create .bid 5 1 (some 10), .cap .ask 5 2 (some 10)]
    ((b.step (.place 0)).1.trades.map fun tr => (tr.active, tr.passive)) = [(0, 1)] ∧ subjectOf b (.place 0) = some 0 := by
  decide

end Bourse.Props.C03

/-
C02 — published market data equals the resting orders; the book is never crossed while
trading was always on. Property theorems only.
-/
import Bourse.Spec.Audit
import Bourse.Lemmas.Grid
import Bourse.Lemmas.RefTransfer
import Bourse.Lemmas.NoOverflow
import Bourse.Lemmas.EnvInv

namespace Bourse.Props.C02
open Bourse

/-- All views agree with one another: the level-1 record is made of exactly the values the
scalar getters return. -/
theorem level1_agrees (b : Book) :
    b.level1 = { bidPrice := b.bidAsk.1, askPrice := b.bidAsk.2, bidVol := b.bidVol, askVol := b.askVol,
                 bidTouchVol := b.bidBestVol, askTouchVol := b.askBestVol,
                 bidTouchOrders := b.bidBestVolAndOrders.2, askTouchOrders := b.askBestVolAndOrders.2 } := rfl

/-- The level-2 record is made of the touch prices, side volumes and the per-level getters. -/
theorem level2_agrees (b : Book) (n : Nat) :
    b.level2 n = { bidPrice := b.bidAsk.1, askPrice := b.bidAsk.2, bidVol := b.bidVol, askVol := b.askVol,
                   bidLevels := b.bidLevels n, askLevels := b.askLevels n } := rfl

/-- The documented sentinels: an empty bid side reports price 0, an empty ask side the maximum
price, and an empty side reports touch volume and order count 0. -/
theorem empty_side_sentinels (b : Book) :
    (b.bid.orders = [] → b.bidAsk.1 = 0) ∧ (b.ask.orders = [] → b.bidAsk.2 = MAXP) ∧
    (b.bid.volumes = [] → b.bidBestVolAndOrders = (0, 0)) ∧
    (b.ask.volumes = [] → b.askBestVolAndOrders = (0, 0)) := by
  refine ⟨?_, ?_, ?_, ?_⟩ <;> intro h <;>
    simp [Book.bidAsk, bestPrice, SideS.bestKey, SMap.first?, Book.bidBestVolAndOrders,
      Book.askBestVolAndOrders, SideS.bestVolAndOrders, h]

/-- Level 0 is the touch: on a non-empty side whose aggregates are keyed like its queue,
the first published level is the touch volume and count. -/
theorem ask_level0_is_touch (b : Book) (n : Nat) (k : Nat × Nat) (id : Nat) (r : SMap (Nat × Nat) Nat)
    (pk : Nat) (v : Nat × Nat) (r' : SMap Nat (Nat × Nat))
    (ho : b.ask.orders = (k, id) :: r) (hv : b.ask.volumes = (pk, v) :: r') (hk : k.1 = pk)
    (hp : pk < P32) :
    (b.askLevels (n + 1)).head? = some b.askBestVolAndOrders := by
  simp [Book.askLevels, List.range_succ_eq_map, Book.bidAsk, bestPrice, SideS.bestKey, SMap.first?, ho,
    hk, priceKey, Nat.mod_eq_of_lt hp, SideS.volAndOrdersAtKey, hv, SMap.find?, KeyOrd.lt,
    Book.askBestVolAndOrders, SideS.bestVolAndOrders]

/-- A freshly created book publishes exactly what recomputation from its (empty) order list
gives, for every level count. -/
theorem init_views (t0 tick : Nat) (trading : Bool) (n : Nat) :
    (Book.new t0 tick trading).observe n = Ref.observe (Ref.init t0 tick trading) n := by
  simp [Book.observe, Ref.observe, Book.new, Ref.init, Book.bidAsk, bestPrice, SideS.bestKey,
    SideS.empty, SMap.first?, Views.bestBid, Views.bestAsk, Views.resting, Views.sideVol, Views.touch,
    Views.atPrice, Views.best, Book.bidVol, Book.askVol, Book.bidBestVolAndOrders,
    Book.askBestVolAndOrders, SideS.bestVolAndOrders, Book.bidBestVol, Book.askBestVol, SideS.bestVol,
    Book.bidLevels, Book.askLevels, SideS.volAndOrdersAtKey, SMap.find?, Views.levels, Views.level,
    Book.level1, Book.level2, Views.level1, Views.level2, Book.mid2, Views.mid2, MAXP]

/-- **The separately maintained aggregates never drift**: in every state reachable by valid
fault-free operations, for every price key the published (volume, order count) of that level is
exactly the (sum of remaining volumes, number) of the orders queued there, the side's total volume
is the sum over its whole queue, every queue entry is an Active order of that side carrying that
key with positive volume, and every Active order is queued exactly once under its key. -/
theorem aggregates_exact (t0 tick : Nat) (trading : Bool) (ht : 0 < tick) (ops : List Op)
    (hv : ∀ op ∈ ops, ValidOp op) (hnf : NoFault (Book.new t0 tick trading) ops) :
    let b := (Book.new t0 tick trading).run ops
    ∀ sd, (∀ pk, SMap.find? pk (b.side sd).volumes =
             (if (aggAt b.orders (b.side sd).orders pk).2 = 0 then none else some (aggAt b.orders (b.side sd).orders pk))) ∧
          (b.side sd).vol = totalVol b.orders (b.side sd).orders ∧
          (∀ (k : Nat × Nat) (id : Nat), (k, id) ∈ (b.side sd).orders → EntryOk b.orders sd b.stamp k id) ∧
          (∀ (id : Nat) (e : Entry), b.orders[id]? = some e → e.order.status = .active → e.order.side = sd →
             ((e.key.pk, e.key.st), id) ∈ (b.side sd).orders) := by
  intro b sd
  have h := inv_reachable t0 tick trading ht ops hv hnf
  refine ⟨(h.side sd).agg, (h.side sd).tot, (h.side sd).ent, ?_⟩
  intro id e he ha hs
  exact hs ▸ h.act id e he ha

/-- The touch never shows a side that is empty in the table, nor misses one that is not: a side's
queue is empty exactly when no Active order of that side exists. -/
theorem queue_empty_iff (b : Book) (h : Inv b) (sd : Side) :
    (b.side sd).orders = [] ↔ ∀ (id : Nat) (e : Entry), b.orders[id]? = some e → e.order.status = .active → e.order.side ≠ sd := by
  constructor
  · intro hq id e he ha hs
    have := h.act id e he ha
    rw [hs, hq] at this
    cases this
  · intro hall
    cases hq : (b.side sd).orders with
    | nil => rfl
    | cons hd tl =>
      obtain ⟨e, he, q⟩ := (h.side sd).row (hq ▸ List.mem_cons_self : hd ∈ (b.side sd).orders)
      exact absurd q.side (hall _ e he q.status)

/-- **Published market data always equals the resting orders.** In every state reachable from a
new book by valid fault-free operations (placements, cancels, modifications, trading toggles,
clock changes, snapshot reloads — any interleaving, any length), for every number `n` of published
levels whose offsets from the touch fit a `u32` (`hn`: `i·tick < 2^32` for every level `i < n`, so that
the wrapping probe price `touch ± i·tick` wraps at most once; for the registered ranges, ticks ≤ 10
and `n ≤ 24`, the largest offset is 230, `probe_range_ok`): the touch prices (with the sentinels 0 and maximum price), both total
volumes, touch volume and order count of both sides, all per-level (volume, count) pairs, the level-1
and level-2 records and the mid-price are exactly the values recomputed from the list of orders
alone, and hence agree with one another. -/
theorem published_data_equals_resting_orders (t0 tick : Nat) (trading : Bool) (ht : 0 < tick) (ops : List Op)
    (hv : ∀ op ∈ ops, ValidOp op) (hnf : NoFault (Book.new t0 tick trading) ops) (n : Nat)
    (hn : ∀ i, i < n → i * tick < P32) :
    let b := (Book.new t0 tick trading).run ops
    let os := b.orders.map (·.order)
    b.bidAsk = (Views.bestBid os, Views.bestAsk os) ∧
    b.bidVol = Views.sideVol os .bid ∧ b.askVol = Views.sideVol os .ask ∧
    b.bidBestVolAndOrders = Views.touch os .bid ∧ b.askBestVolAndOrders = Views.touch os .ask ∧
    b.bidLevels n = Views.levels os tick .bid n ∧ b.askLevels n = Views.levels os tick .ask n ∧
    b.level1 = Views.level1 os ∧ b.level2 n = Views.level2 os tick n ∧ b.mid2 = Views.mid2 os := by
  intro b os
  have h := inv_reachable t0 tick trading ht ops hv hnf
  have htick : b.tick = tick := run_tick _ ops
  have := views_correct h n (by rwa [htick])
  rwa [htick] at this

/-- The same fact in the form the per-run audit uses: the decidable predicate `Audit.c02Views`, which
the driver evaluates on the REAL implementation's observations after every operation, reports no
failed clause on the model's observation of any reachable state. -/
theorem audit_c02_passes (t0 tick : Nat) (trading : Bool) (ht : 0 < tick) (ops : List Op)
    (hv : ∀ op ∈ ops, ValidOp op) (hnf : NoFault (Book.new t0 tick trading) ops) (n : Nat)
    (hn : ∀ i, i < n → i * tick < P32) :
    Audit.c02Views tick n (((Book.new t0 tick trading).run ops).observe n) = [] := by
  have h := published_data_equals_resting_orders t0 tick trading ht ops hv hnf n hn
  simp only at h
  obtain ⟨h1, h2, h3, h4, h5, h6, h7, h8, h9, h10⟩ := h
  simp only [Audit.c02Views, Book.observe, Audit.chk]
  simp [h1, h2, h3, h6, h7, h8, h9, h10, ← h4, ← h5, Book.bidBestVol, Book.askBestVol, SideS.bestVol,
    Book.bidBestVolAndOrders, Book.askBestVolAndOrders]

/-- For the quantifier of the property (tick sizes 1..10, level counts 1..24) the probe-price
hypothesis always holds. -/
theorem probe_range_ok (tick n : Nat) (ht : tick ≤ 10) (hn : n ≤ 24) : ∀ i, i < n → i * tick < P32 := by
  intro i hi
  have : i * tick ≤ 24 * 10 := Nat.mul_le_mul (by omega) ht
  simp only [P32]; omega

/-- Non-vacuity / concrete reading: a two-level book with a partially filled head order, after
a cancel and a re-price, publishes exactly the recomputation from its order list. -/
example :
    let b0 := Book.new 0 2 true
    let ops : List Op := [.cap .ask 5 1 (some 10), .time 1, .cap .ask 7 2 (some 12), .time 2,
      .cap .bid 3 3 (some 10), .time 3, .cap .bid 4 4 (some 8), .time 4, .cap .bid 6 5 (some 6),
      .time 5, .cancel 3, .time 6, .modify 4 (some 8) (some 9)]
    let b := b0.run ops
    let r := ops.foldl (fun s op => (Ref.step s op).1) (Ref.init 0 2 true)
    b.observe 3 = Ref.observe r 3 ∧ b.bidAsk = (8, 10) ∧ b.askBestVolAndOrders = (2, 1) := by
  decide

/-- **C02, last sentence.** For every valid fault-free history on a book created with trading
enabled that never disables trading: whenever both sides are non-empty, the published best bid is
strictly below the published best ask. (The entrant trades away everything its limit admits before
it may rest — `enter_uncrossed` — and every other operation only removes orders or keeps prices.) -/
theorem never_crossed (t0 tick : Nat) (ht : 0 < tick) (ops : List Op)
    (hv : ∀ op ∈ ops, ValidOp op) (hno : ∀ op ∈ ops, op ≠ .trading false)
    (hnf : NoFault (Book.new t0 tick true) ops) :
    let b := (Book.new t0 tick true).run ops
    b.bid.orders ≠ [] → b.ask.orders ≠ [] → b.bidAsk.1 < b.bidAsk.2 := by
  intro b hb ha
  have h := inv_reachable t0 tick true ht ops hv hnf
  have hu := uncrossed_run (inv_new t0 tick true ht) (uncrossed_new t0 tick true) rfl ops hv hno hnf
  exact bidAsk_lt_of_uncrossed h hu hb ha

/-- The same fact as the audit predicate the driver evaluates on the real implementation: it reports
nothing on the model's observation of any such state. -/
theorem audit_uncrossed_passes (t0 tick : Nat) (ht : 0 < tick) (ops : List Op)
    (hv : ∀ op ∈ ops, ValidOp op) (hno : ∀ op ∈ ops, op ≠ .trading false)
    (hnf : NoFault (Book.new t0 tick true) ops) (n : Nat) :
    Audit.c02Uncrossed true (((Book.new t0 tick true).run ops).observe n) = [] := by
  have h := inv_reachable t0 tick true ht ops hv hnf
  have hnc := never_crossed t0 tick ht ops hv hno hnf
  simp only at hnc
  generalize (Book.new t0 tick true).run ops = b at h hnc ⊢
  -- `never_crossed`, read on the order list: a side rests exactly when its queue is non-empty
  have hlt : Views.resting (b.orders.map (·.order)) .bid ≠ [] → Views.resting (b.orders.map (·.order)) .ask ≠ [] →
      Views.bestBid (b.orders.map (·.order)) < Views.bestAsk (b.orders.map (·.order)) := fun hb ha => by
    have := hnc (mt (resting_nil_iff h .bid).mpr hb) (mt (resting_nil_iff h .ask).mpr ha)
    rwa [(views_correct h 0 (by intro i hi; omega)).1] at this
  simp only [Audit.c02Uncrossed, Audit.chk, Book.observe, Bool.not_true, Bool.false_or]
  rw [if_pos]
  simp only [Bool.or_eq_true, List.isEmpty_iff]
  exact Classical.or_iff_not_imp_left.mpr fun hn => decide_eq_true (hlt (fun hb => hn (.inl hb)) (fun ha => hn (.inr ha)))

/-- Non-vacuity: both sides populated after trades, a cancel and a re-price that trades. -/
example :
    let ops : List Op := [.cap .ask 5 1 (some 10), .cap .ask 7 2 (some 12), .cap .bid 3 3 (some 10),
      .cap .bid 4 4 (some 8), .cap .bid 6 5 (some 6), .cancel 3, .modify 4 (some 10) (some 9)]
    let b := (Book.new 0 2 true).run ops
    NoFault (Book.new 0 2 true) ops ∧ b.bid.orders ≠ [] ∧ b.ask.orders ≠ [] ∧ b.bidAsk = (10, 12) := by
  refine ⟨?_, by decide, by decide, by decide⟩
  simp only [NoFault, and_true]
  decide

/-! For valid histories as the property states them: `ValidHistory` discharges `NoFault`. -/

theorem published_data_equals_resting_orders_valid (t0 tick : Nat) (trading : Bool) (ops : List Op)
    (h : ValidHistory t0 tick trading ops) (n : Nat) (hn : ∀ i, i < n → i * tick < P32) :
    let b := (Book.new t0 tick trading).run ops
    let os := b.orders.map (·.order)
    b.bidAsk = (Views.bestBid os, Views.bestAsk os) ∧
    b.bidVol = Views.sideVol os .bid ∧ b.askVol = Views.sideVol os .ask ∧
    b.bidBestVolAndOrders = Views.touch os .bid ∧ b.askBestVolAndOrders = Views.touch os .ask ∧
    b.bidLevels n = Views.levels os tick .bid n ∧ b.askLevels n = Views.levels os tick .ask n ∧
    b.level1 = Views.level1 os ∧ b.level2 n = Views.level2 os tick n ∧ b.mid2 = Views.mid2 os :=
  published_data_equals_resting_orders t0 tick trading h.tick_pos ops h.ops_valid h.noFault n hn

theorem never_crossed_valid (t0 tick : Nat) (ops : List Op) (h : ValidHistory t0 tick true ops)
    (hno : ∀ op ∈ ops, op ≠ .trading false) :
    let b := (Book.new t0 tick true).run ops
    b.bid.orders ≠ [] → b.ask.orders ≠ [] → b.bidAsk.1 < b.bidAsk.2 :=
  never_crossed t0 tick h.tick_pos ops h.ops_valid hno h.noFault

/-- **The same for every asset of every running simulation**: in every state an environment (single-
or multi-asset) reaches by submissions, queued cancellations / modifications, trading switches and
steps — whatever the agents submit and whatever permutation the generator produces — every book's
published views equal the recomputation from that book's own order list. -/
theorem published_data_equals_resting_orders_in_simulations {s : MEnv × Xoro} (h : s.1.market.Inv)
    (ops : List MEnv.EOp) (hok : EnvRunOk s ops) (b : Book) (hb : b ∈ (MEnv.runOps s ops).1.market.books)
    (n : Nat) (hn : ∀ i, i < n → i * b.tick < P32) :
    let os := b.orders.map (·.order)
    b.bidAsk = (Views.bestBid os, Views.bestAsk os) ∧
    b.bidVol = Views.sideVol os .bid ∧ b.askVol = Views.sideVol os .ask ∧
    b.bidBestVolAndOrders = Views.touch os .bid ∧ b.askBestVolAndOrders = Views.touch os .ask ∧
    b.bidLevels n = Views.levels os b.tick .bid n ∧ b.askLevels n = Views.levels os b.tick .ask n ∧
    b.level1 = Views.level1 os ∧ b.level2 n = Views.level2 os b.tick n ∧ b.mid2 = Views.mid2 os :=
  env_views_correct h ops hok b hb n hn

end Bourse.Props.C02

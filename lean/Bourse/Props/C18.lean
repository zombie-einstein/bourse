/-
C18 — the Python classes are transparent views of the Rust core.
The property theorems and the definitions they are stated with, over the binding / encoding / layout tables TRANSLATED from rust/src/*.rs and
crates/order_book/src/types.rs on every run (`Generated/PyLayer.lean`), plus the generic lifting
lemmas. The real extension is driven under CPython against the Rust core on every run (the tie).
-/
import Bourse.Generated.PyLayer

namespace Bourse.Props.C18
open Bourse.Generated.Py

/-- **Statuses are encoded 0 New, 1 Active, 2 Filled, 3 Cancelled, 4 Rejected**, as documented. -/
theorem status_encoding_documented :
    statusToU8 = [("Status::New", "0"), ("Status::Active", "1"), ("Status::Filled", "2"),
                  ("Status::Cancelled", "3"), ("Status::Rejected", "4")] := rfl

/-- **Sides are encoded True = bid**, in both directions, and the two conversions are inverse. -/
theorem side_bool_roundtrip :
    sideToBool = [("Side::Bid", "true"), ("Side::Ask", "false")] ∧
    boolToSide = [("true", "Self::Bid"), ("false", "Self::Ask")] := ⟨rfl, rfl⟩

/-- Order and trade records are the documented tuples: field k of the tuple is the k-th documented
field (side, status, arrival, end, remaining volume, starting volume, price, trader, id / time, side,
price, volume, aggressive id, passive id), for all three classes that return them. -/
theorem tuple_layouts_documented :
    castOrder = ["order.side.into()", "order.status.into()", "order.arr_time", "order.end_time", "order.vol",
                 "order.start_vol", "order.price", "order.trader_id", "order.order_id"] ∧
    castTrade = ["trade.t", "trade.side.into()", "trade.price", "trade.vol", "trade.active_order_id",
                 "trade.passive_order_id"] ∧
    orderBook_get_orders_doc = stepEnv_get_orders_doc ∧ stepEnv_get_orders_doc = stepEnvNumpy_get_orders_doc ∧
    orderBook_get_orders_doc = ["side (``True`` indicates bid-side)", "status of the order", "arrival time of the order",
      "end time of the order", "Remaining volume of the order", "Starting volume of the order", "Price of the order",
      "Id of the trader/agent who placed the order", "Id of the order"] ∧
    orderBook_get_trades_doc = stepEnv_get_trades_doc ∧
    orderBook_get_trades_doc = ["Trade time", "Side flag (``True`` for bid side)", "Trade price", "Trade volume",
      "Id of the aggressive order", "Id of the passive order"] := ⟨rfl, rfl, rfl, rfl, rfl, rfl, rfl⟩

/-- The binding table the model assumes for `bourse.core.OrderBook`: every Python method is
`encode ∘ (one call of the Rust core with the arguments passed through) ∘ decode`; in particular
every bid getter returns the core's bid quantity and every ask getter the ask quantity. -/
def orderBookBindings : List (String × String) := [("new", "letinner=BaseOrderBook::new(start_time,tick_size,trading);Ok(Self(inner))"), ("set_time", "self.0.set_time(t);"), ("enable_trading", "self.0.enable_trading();"), ("disable_trading", "self.0.disable_trading();"), ("ask_vol", "self.0.ask_vol()"), ("best_ask_vol", "self.0.ask_best_vol()"), ("best_ask_vol_and_orders", "self.0.ask_best_vol_and_orders()"), ("bid_vol", "self.0.bid_vol()"), ("best_bid_vol", "self.0.bid_best_vol()"), ("best_bid_vol_and_orders", "self.0.bid_best_vol_and_orders()"), ("bid_ask", "self.0.bid_ask()"), ("order_status", "self.0.order(order_id).status.into()"), ("place_order", "letside=matchbid{true=>Side::Bid,false=>Side::Ask,};letorder_id=self.0.create_and_place_order(side,vol,trader_id,price);matchorder_id{Ok(i)=>Ok(i),Err(e)=>Err(PyValueError::new_err(e.to_string())),}"), ("cancel_order", "self.0.cancel_order(order_id);"), ("modify_order", "self.0.modify_order(order_id,new_price,new_vol);"), ("get_trades", "self.0.get_trades().iter().map(types::cast_trade).collect()"), ("get_orders", "self.0.get_orders().into_iter().map(types::cast_order).collect()"), ("save_json_snapshot", "self.0.save_json(path,pretty)?;Ok(())")]

/-- … and for `bourse.core.StepEnv`: getters read the cached level-2 snapshot (bid from bid fields,
ask from ask fields, touch = level 0), the clock and traded volume come from the live book,
mutators forward to the environment, `step` uses the environment's own seeded generator. -/
def stepEnvBindings : List (String × String) := [("new", "letenv=BaseEnv::new(start_time,tick_size,step_size,trading);letrng=Xoroshiro128StarStar::seed_from_u64(seed);Ok(Self{env,rng})"), ("time", "self.env.get_orderbook().get_time()"), ("ask_vol", "self.env.level_2_data().ask_vol"), ("best_ask_vol", "self.env.level_2_data().ask_price_levels[0].0"), ("best_ask_vol_and_orders", "self.env.level_2_data().ask_price_levels[0]"), ("bid_vol", "self.env.level_2_data().bid_vol"), ("best_bid_vol", "self.env.level_2_data().bid_price_levels[0].0"), ("best_bid_vol_and_orders", "self.env.level_2_data().bid_price_levels[0]"), ("trade_vol", "self.env.get_orderbook().get_trade_vol()"), ("bid_ask", "(self.env.level_2_data().bid_price,self.env.level_2_data().ask_price,)"), ("order_status", "self.env.get_orderbook().order(order_id).status.into()"), ("enable_trading", "self.env.enable_trading();"), ("disable_trading", "self.env.disable_trading();"), ("step", "self.env.step(&mutself.rng);Ok(())"), ("place_order", "letside=matchbid{true=>Side::Bid,false=>Side::Ask,};letorder_id=self.env.place_order(side,vol,trader_id,price);matchorder_id{Ok(i)=>Ok(i),Err(e)=>Err(PyValueError::new_err(e.to_string())),}"), ("cancel_order", "self.env.cancel_order(order_id);Ok(())"), ("modify_order", "self.env.modify_order(order_id,new_price,new_vol);Ok(())"), ("get_prices", "letprices=self.env.get_prices();(prices.0.to_pyarray(py),prices.1.to_pyarray(py))"), ("get_volumes", "letvolumes=self.env.get_volumes();(volumes.0.to_pyarray(py),volumes.1.to_pyarray(py))"), ("get_touch_volumes", "lettouch_volumes=self.env.get_touch_volumes();(touch_volumes.0.to_pyarray(py),touch_volumes.1.to_pyarray(py),)"), ("get_touch_order_counts", "lettouch_order_counts=self.env.get_touch_order_counts();(touch_order_counts.0.to_pyarray(py),touch_order_counts.1.to_pyarray(py),)"), ("level_1_data_array", "letdata=self.env.level_2_data();letdata_vec=[self.env.get_orderbook().get_trade_vol(),data.bid_price,data.ask_price,data.bid_vol,data.ask_vol,data.bid_price_levels[0].0,data.bid_price_levels[0].1,data.ask_price_levels[0].0,data.ask_price_levels[0].1,];data_vec.to_pyarray(py)"), ("level_2_data_array", "letdata=self.env.level_2_data();letmutdata_vec=vec![self.env.get_orderbook().get_trade_vol(),data.bid_price,data.ask_price,data.bid_vol,data.ask_vol,];foriin0..10{data_vec.push(data.bid_price_levels[i].0);data_vec.push(data.bid_price_levels[i].1);data_vec.push(data.ask_price_levels[i].0);data_vec.push(data.ask_price_levels[i].1);}data_vec.to_pyarray(py)"), ("get_trade_volumes", "self.env.get_trade_vols().to_pyarray(py)"), ("get_orders", "self.env.get_orders().into_iter().map(cast_order).collect()"), ("get_trades", "self.env.get_trades().iter().map(cast_trade).collect()"), ("get_market_data", "letdata=self.env.get_level_2_data_history();lettrade_volumes=self.get_trade_volumes(py);letbid_vols:[(String,&'aPyArray1<u32>);10]=array::from_fn(|i|{(format!(\"bid_vol_{i}\"),data.volumes_at_levels.0[i].to_pyarray(py),)});letask_vols:[(String,&'aPyArray1<u32>);10]=array::from_fn(|i|{(format!(\"ask_vol_{i}\"),data.volumes_at_levels.1[i].to_pyarray(py),)});letbid_orders:[(String,&'aPyArray1<u32>);10]=array::from_fn(|i|{(format!(\"n_bid_{i}\"),data.orders_at_levels.0[i].to_pyarray(py),)});letask_orders:[(String,&'aPyArray1<u32>);10]=array::from_fn(|i|{(format!(\"n_ask_{i}\"),data.orders_at_levels.1[i].to_pyarray(py),)});letmutpy_data=HashMap::from([(\"bid_price\".to_string(),data.prices.0.to_pyarray(py)),(\"ask_price\".to_string(),data.prices.1.to_pyarray(py)),(\"bid_vol\".to_string(),data.volumes.0.to_pyarray(py)),(\"ask_vol\".to_string(),data.volumes.1.to_pyarray(py)),(\"trade_vol\".to_string(),trade_volumes),]);py_data.extend(bid_vols);py_data.extend(ask_vols);py_data.extend(bid_orders);py_data.extend(ask_orders);py_data")]

/-- **The bindings in the source (translated on this run) are the transparent ones.** -/
theorem bindings_transparent :
    orderBook_methods = orderBookBindings ∧ stepEnv_methods = stepEnvBindings := ⟨rfl, rfl⟩

/-- If every Python method is `encode` of the core's result on the same state, then any call
sequence yields exactly the encoded values of the core run, and the same final state. -/
theorem py_run_eq_core_run {S Op R PR : Type} (core : S → Op → S × R) (enc : R → PR) (s : S) (ops : List Op) :
    (ops.foldl (fun (acc : S × List PR) op => ((core acc.1 op).1, acc.2 ++ [enc (core acc.1 op).2])) (s, [])) =
    ((ops.foldl (fun (acc : S × List R) op => ((core acc.1 op).1, acc.2 ++ [(core acc.1 op).2])) (s, [])).1,
     (ops.foldl (fun (acc : S × List R) op => ((core acc.1 op).1, acc.2 ++ [(core acc.1 op).2])) (s, [])).2.map enc) := by
  have gen : ∀ (s : S) (pre : List R),
      (ops.foldl (fun (acc : S × List PR) op => ((core acc.1 op).1, acc.2 ++ [enc (core acc.1 op).2])) (s, pre.map enc)) =
      ((ops.foldl (fun (acc : S × List R) op => ((core acc.1 op).1, acc.2 ++ [(core acc.1 op).2])) (s, pre)).1,
       (ops.foldl (fun (acc : S × List R) op => ((core acc.1 op).1, acc.2 ++ [(core acc.1 op).2])) (s, pre)).2.map enc) := by
    induction ops with
    | nil => intro s pre; rfl
    | cons op ops ih =>
      intro s pre
      simp only [List.foldl_cons]
      have := ih (core s op).1 (pre ++ [(core s op).2])
      simpa [List.map_append] using this
  simpa using gen s []

/-- Argument conversion happens before the core is touched: a call whose integer argument is out
of range (decode fails → OverflowError) or whose price is rejected by the core (→ ValueError, core
state unchanged by C12) leaves the object unchanged. -/
theorem py_error_unchanged {S Raw Args R : Type} (decode : Raw → Option Args) (core : S → Args → S × Option R)
    (hcore : ∀ s a, (core s a).2 = none → (core s a).1 = s) (s : S) (raw : Raw) :
    let call : S × Option R := match decode raw with
      | none => (s, none)
      | some a => core s a
    call.2 = none → call.1 = s := by
  intro call h
  simp only [call] at h ⊢
  cases hd : decode raw with
  | none => rfl
  | some a => simp only [hd] at h ⊢; exact hcore s a h

/-- Non-vacuity of the lifting lemma: a two-call run of a toy core. -/
example : (([1, 2] : List Nat).foldl (fun (acc : Nat × List String) op => ((acc.1 + op, acc.1 * op)).1 |> fun s' => (s', acc.2 ++ [toString (acc.1 * op)])) (5, [])).1 = 8 := by
  decide

end Bourse.Props.C18

/-
C13 — while trading is disabled nothing trades and market orders are rejected.
-/
import Bourse.Lemmas.RefineTrace
import Bourse.Lemmas.NoOverflow

namespace Bourse.Props.C13
open Bourse

/-- Switching the flag changes the flag and nothing else. -/
theorem toggle_only_flag (b : Book) :
    b.enableTrading = { b with trading := true } ∧ b.disableTrading = { b with trading := false } :=
  ⟨rfl, rfl⟩

/-- **No trade is ever recorded while trading is disabled**: every operation other than
re-enabling trading leaves the trade log unchanged and the flag off. -/
theorem no_trading_no_trades (b : Book) (op : Op) (h : b.trading = false)
    (hop : op ≠ .trading true) :
    (b.step op).1.trades = b.trades ∧ (b.step op).1.trading = false := by
  by_cases ha : op.Admin
  · refine ⟨(Book.admin_frame b ha).trades, ?_⟩
    cases ha with
    | trading on => cases on <;> first | rfl | exact absurd rfl hop
    | _ => exact h
  · exact ⟨(Book.step_opFrame b op ha).quiet h, (Book.step_opFrame b op ha).trading.trans h⟩

/-- Lifted over histories: as long as trading is not re-enabled the trade log never grows. -/
theorem no_trading_run (b : Book) (ops : List Op) (h : b.trading = false)
    (hops : ∀ op ∈ ops, op ≠ .trading true) : (b.run ops).trades = b.trades := by
  induction ops generalizing b with
  | nil => rfl
  | cons op ops ih =>
    have h1 := no_trading_no_trades b op h (hops op List.mem_cons_self)
    exact (ih (b.step op).1 h1.2 fun o ho => hops o (List.mem_cons_of_mem _ ho)).trans h1.1

/-- While trading is disabled a market order is rejected, stamped with the current time,
and neither side of the book, the trade log nor the stamp counter is touched. -/
theorem no_trading_market_rejected (b : Book) (id : Nat) (e : Entry)
    (h : b.trading = false) (he : b.orders[id]? = some e) (hn : e.order.status = .new)
    (hm : Book.isMarket e.order = true) :
    b.placeOrder id = { b with orders := b.orders.set id { e with order := { e.order with status := .rejected, arr := b.t, endt := b.t } } } := by
  rw [Book.placeOrder_market he hn hm, Book.placeMarket_off _ _ _ h]
  rfl

/-- While trading is disabled a limit order rests at its own price, whatever the opposite
side looks like (the book may become crossed): it gets the next queue stamp and is inserted
with its full volume. -/
theorem no_trading_limit_rests (b : Book) (id : Nat) (e : Entry)
    (h : b.trading = false) (he : b.orders[id]? = some e) (hn : e.order.status = .new)
    (hm : Book.isMarket e.order = false) :
    let sd := e.order.side
    let b1 : Book := { b with stamp := b.stamp + 1 }
    let b2 : Book := b1.setSide sd ((b.side sd).insertOrder e.key.pk b.stamp e.order.id e.order.vol)
    let e' : Entry := { order := { e.order with status := .active, arr := b.t }, key := ⟨sd, e.key.pk, b.stamp⟩ }
    b.placeOrder id = { b2 with orders := b.orders.set id e' } := by
  rw [Book.placeOrder_limit he hn hm, Book.matchIfTrading_off _ _ _ h]
  cases hs : e.order.side <;>
    simp [Book.restUnlessFilled, Book.enqueue, Book.activate, Book.writeBack, Book.setSide, Book.side]

/-- Non-vacuity: trading off, a crossing ask rests (book crossed), a market order is rejected,
no trade; after re-enabling, the next aggressor matches by the usual rules. -/
example :
    let b0 := Book.new 0 1 false
    let b1 := (b0.step (.cap .bid 5 1 (some 10))).1
    let b2 := (b1.step (.cap .ask 5 2 (some 8))).1
    let b3 := (b2.step (.cap .bid 3 3 none)).1
    let b4 := (b3.step (.trading true)).1
    let b5 := (b4.step (.cap .bid 2 4 (some 9))).1
    b3.trades = [] ∧ b3.bidAsk = (10, 8) ∧ (b3.orders.map (·.order.status)) = [.active, .active, .rejected] ∧
      b5.trades = [{ t := 0, side := .ask, price := 8, vol := 2, active := 3, passive := 1 }] := by decide

/-- Reference engine, trading disabled: an arriving or re-priced limit order is queued at its price
behind every order with a better or equal price — no matching, the book may become crossed. -/
theorem ref_disabled_limit_rests (s : Ref.RState) (agg : Order) (ht : s.trading = false)
    (hf : agg.status ≠ .filled) :
    Ref.enter s agg false =
      (s.setQueue agg.side (Ref.enqueue s.orders agg.side (s.queue agg.side) agg.id agg.price), agg) := by
  simp [Ref.enter, ht, hf]

/-- Reference engine, trading disabled: a market order is rejected and the state is untouched. -/
theorem ref_disabled_market_rejected (s : Ref.RState) (agg : Order) (ht : s.trading = false) :
    Ref.enter s agg true = (s, { agg with status := .rejected, endt := s.t }) := by
  simp [Ref.enter, ht]

/-- Reference engine: switching the flag changes the flag and nothing else. -/
theorem ref_toggle_only_flag (s : Ref.RState) (on : Bool) :
    (Ref.step s (.trading on)).1 = { s with trading := on } := rfl

/-- **Across toggles.** `Op` includes the trading switch, so the refinement theorem covers histories
with the flag toggled at arbitrary points: the implementation's results and complete observations
are the reference engine's — which, while the flag is off, rests limit orders and rejects market
orders as above, and as soon as it is on again matches every subsequently arriving or re-priced order
against the whole resting book (possibly crossed) by the usual rules. -/
theorem toggled_histories_are_reference_histories (t0 tick : Nat) (trading : Bool) (ht : 0 < tick) (ops : List Op)
    (hv : ∀ op ∈ ops, ValidOp op) (hnf : NoFault (Book.new t0 tick trading) ops) (n : Nat)
    (hn : ∀ i, i < n → i * tick < P32) :
    Book.trace n (Book.new t0 tick trading) ops = Ref.trace n (Ref.init t0 tick trading) ops :=
  trace_run_new t0 tick trading ht ops hv hnf n hn

/-- Non-vacuity: a history that crosses the book while disabled and trades after re-enabling. -/
example :
    let ops : List Op := [.cap .ask 5 1 (some 10), .trading false, .cap .bid 5 2 (some 12), .cap .bid 1 3 none,
      .trading true, .cap .ask 2 4 (some 11)]
    let b := (Book.new 0 1 true).run ops
    NoFault (Book.new 0 1 true) ops ∧ b.trades.length = 1 ∧
      (b.orders.map (·.order.status)) = [.active, .active, .rejected, .filled] := by
  refine ⟨?_, by decide, by decide⟩
  simp only [NoFault, and_true]
  decide

/-- `toggled_histories_are_reference_histories` for valid histories as the property states them. -/
theorem toggled_histories_are_reference_histories_valid (t0 tick : Nat) (trading : Bool) (ops : List Op)
    (h : ValidHistory t0 tick trading ops) (n : Nat) (hn : ∀ i, i < n → i * tick < P32) :
    Book.trace n (Book.new t0 tick trading) ops = Ref.trace n (Ref.init t0 tick trading) ops :=
  toggled_histories_are_reference_histories t0 tick trading h.tick_pos ops h.ops_valid h.noFault n hn

end Bourse.Props.C13

/-
C12 — every resting price is on the tick grid; rejected creations leave no trace.
-/
import Bourse.Lemmas.Grid
import Bourse.Lemmas.ViewsCorrect
import Bourse.Lemmas.RefTransfer

namespace Bourse.Props.C12
open Bourse

/-- A limit order can be created iff its price is a multiple of the tick size (both sides). -/
theorem create_ok_iff (b : Book) (sd : Side) (vol tr p : Nat) :
    (b.createOrder sd vol tr (some p)).2 = .ok b.orders.length ↔ p % b.tick = 0 := by
  by_cases h : p % b.tick = 0 <;> simp [Book.createOrder, h]

/-- A market order can always be created. -/
theorem create_market_ok (b : Book) (sd : Side) (vol tr : Nat) :
    (b.createOrder sd vol tr none).2 = .ok b.orders.length := by
  simp [Book.createOrder]

/-- A rejected creation reports the offending price and tick size and changes nothing:
the whole model state is identical, so no id is consumed and no view differs. -/
theorem create_err_unchanged (b : Book) (sd : Side) (vol tr : Nat) (p : Option Nat) (q t : Nat)
    (h : (b.createOrder sd vol tr p).2 = .priceError q t) :
    (b.createOrder sd vol tr p).1 = b ∧ p = some q ∧ t = b.tick ∧ q % b.tick ≠ 0 := by
  cases p with
  | none => simp [Book.createOrder] at h
  | some p =>
    by_cases hp : p % b.tick = 0
    · simp [Book.createOrder, hp] at h
    · simp [Book.createOrder, hp] at h ⊢
      obtain ⟨rfl, rfl⟩ := h
      exact ⟨rfl, rfl, hp⟩

/-- The same through `create_and_place_order`: nothing is placed when creation is rejected. -/
theorem createAndPlace_err_unchanged (b : Book) (sd : Side) (vol tr : Nat) (p : Option Nat) (q t : Nat)
    (h : (b.createAndPlace sd vol tr p).2 = .priceError q t) :
    (b.createAndPlace sd vol tr p).1 = b := by
  unfold Book.createAndPlace at h ⊢
  split at h
  · simp at h
  · rename_i q' t' hc
    have := create_err_unchanged b sd vol tr p q' t' hc
    simp [this.1]

/-- A modification that asks for an off-grid price is ignored entirely. -/
theorem modify_offgrid_ignored (b : Book) (id p : Nat) (v : Option Nat) (e : Entry)
    (h : b.orders[id]? = some e) (hp : p % b.tick ≠ 0) : b.modifyOrder id (some p) v = b := by
  simp [Book.modifyOrder, h, Book.offGrid, hp]

/-- **Every price in the book is on the tick grid, also after any modification**: from a new book,
after ANY sequence of operations — arbitrary creation prices on and off the grid, arbitrary modify
prices, any ids and volumes, no validity hypothesis whatsoever — every order in the table is a
market order or has a price that is a multiple of the tick size. -/
theorem prices_on_grid_always (t0 tick : Nat) (trading : Bool) (ops : List Op) :
    ∀ e ∈ ((Book.new t0 tick trading).run ops).orders, Book.isMarket e.order = true ∨ e.order.price % tick = 0 := by
  have h := grid_run _ ops (grid_new t0 tick trading)
  rw [Grid, run_tick] at h
  exact h

/-- Non-vacuity: tick 2, an off-grid creation is rejected and an off-grid modification ignored
while on-grid ones succeed. -/
example :
    let b0 := Book.new 0 2 true
    let r1 := b0.createAndPlace .ask 5 1 (some 50)
    let r2 := r1.1.createAndPlace .ask 7 1 (some 51)
    r1.2 = .ok 0 ∧ r2.2 = .priceError 51 2 ∧ r2.1 = r1.1 ∧
      r1.1.modifyOrder 0 (some 51) none = r1.1 ∧
      ((r1.1.modifyOrder 0 (some 52) none).orders.map (·.order.price)) = [52] := by decide

/-- **Every resting order has a grid price** (stronger than `prices_on_grid_always` for the orders
that matter to the level data: a market order carries a sentinel price, which need not be a multiple
of the tick size, but it never rests). -/
theorem resting_prices_on_grid (t0 tick : Nat) (trading : Bool) (ht : 0 < tick) (ops : List Op)
    (hv : ∀ op ∈ ops, ValidOp op) (hnf : NoFault (Book.new t0 tick trading) ops) (sd : Side) :
    ∀ o ∈ Views.resting (((Book.new t0 tick trading).run ops).orders.map (·.order)) sd,
      o.price % tick = 0 ∧ o.price ≤ MAXP :=
  resting_on_grid t0 tick trading ht ops hv hnf sd

/-- **The published per-level data accounts for all resting volume within its range**: in every
reachable state the volumes of the `n` published levels of a side add up to exactly the resting
volume of that side priced within `n` ticks of the touch — no resting order in range is missed by the
level queries (they start at the touch and step by exactly one tick; every resting price is on that
grid) and none is counted twice. -/
theorem levels_account_for_resting_volume (t0 tick : Nat) (trading : Bool) (ht : 0 < tick) (ops : List Op)
    (hv : ∀ op ∈ ops, ValidOp op) (hnf : NoFault (Book.new t0 tick trading) ops) (n : Nat)
    (hn : ∀ i, i < n → i * tick < P32) :
    let b := (Book.new t0 tick trading).run ops
    let os := b.orders.map (·.order)
    ((b.bidLevels n).map (·.1)).sum = Views.volWithin os tick .bid n ∧
    ((b.askLevels n).map (·.1)).sum = Views.volWithin os tick .ask n := by
  intro b os
  have h := inv_reachable t0 tick trading ht ops hv hnf
  have htick : b.tick = tick := run_tick _ ops
  obtain ⟨_, _, _, _, _, hb, ha, _⟩ := views_correct h n (by rw [htick]; exact hn)
  rw [htick] at hb ha
  rw [hb, ha]
  exact ⟨Views.bid_levels_account ht (resting_on_grid t0 tick trading ht ops hv hnf .bid) n,
         Views.ask_levels_account ht (resting_on_grid t0 tick trading ht ops hv hnf .ask) n⟩

/-- Non-vacuity: tick 5, three bid levels in range and one beyond; two published levels hold 7 + 4,
three hold all 7 + 4 + 2 within 3 ticks; the bid 20 ticks away is out of range of both. -/
example :
    let b := (Book.new 0 5 true).run [.cap .bid 7 1 (some 100), .cap .bid 4 1 (some 95), .cap .bid 2 1 (some 90),
      .cap .bid 9 1 (some 0), .cap .ask 3 2 (some 110)]
    (b.bidLevels 2).map (·.1) = [7, 4] ∧ Views.volWithin (b.orders.map (·.order)) 5 .bid 2 = 11 ∧
    Views.volWithin (b.orders.map (·.order)) 5 .bid 3 = 13 ∧ ((b.bidLevels 3).map (·.1)).sum = 13 := by decide

end Bourse.Props.C12

/-
C15 — the processing order within a step is a shuffle driven only by the supplied generator.
The property theorems and the helpers they rest on. The generator (`Xoro`) and `shuffle` are the transcriptions in
`Model/Rng.lean`, validated bit-for-bit against the real crates on every run.
-/
import Bourse.Model.Env
import Bourse.Lemmas.Lemire
import Bourse.Lemmas.ShuffleCount
import Mathlib.Data.List.Permutation
import Mathlib.Data.Nat.Factorial.Basic

namespace Bourse.Props.C15
open Bourse

theorem swap_length {α} (l : List α) (i j : Nat) : (Xoro.swap l i j).length = l.length :=
  (Xoro.swap_perm l i j).length_eq

theorem swap_map {α β} (f : α → β) (l : List α) (i j : Nat) :
    Xoro.swap (l.map f) i j = (Xoro.swap l i j).map f := by
  unfold Xoro.swap
  simp only [List.getElem?_map]
  cases l[i]? <;> cases l[j]? <;> simp [List.map_set]

/-- **Every instruction exactly once.** The shuffled batch is a permutation of the queue:
nothing is lost, duplicated or invented. -/
theorem shuffle_perm {α} (l : List α) (g : Xoro) (l' : List α) (g' : Xoro)
    (h : Xoro.shuffle l g = some (l', g')) : l'.Perm l :=
  Xoro.shuffle_perm h

theorem shuffleFrom_natural {α β} (f : α → β) (i : Nat) (l : List α) (g : Xoro) :
    Xoro.shuffleFrom i (l.map f) g = (Xoro.shuffleFrom i l g).map (fun r => (r.1.map f, r.2)) := by
  induction i generalizing l g with
  | zero => simp [Xoro.shuffleFrom]
  | succ i ih =>
    unfold Xoro.shuffleFrom
    split
    · simp
    · rename_i j g' _
      rw [swap_map, ih]

/-- **The order does not depend on what the instructions are.** Shuffling commutes with any
relabelling of the items: the position permutation is a function of the generator state and the
batch length only — not of the instruction kinds, ids or assets, and (given the queue) not of
anything but the generator. The generator state afterwards is the same too. -/
theorem shuffle_natural {α β} (f : α → β) (l : List α) (g : Xoro) :
    Xoro.shuffle (l.map f) g = (Xoro.shuffle l g).map (fun r => (r.1.map f, r.2)) := by
  simp only [Xoro.shuffle, List.length_map]
  exact shuffleFrom_natural f _ l g

/-- Hence the processed batch is the queue read through the position permutation obtained by
shuffling the indices `0 … n-1` with the same generator state. -/
theorem shuffle_by_positions {α} [Inhabited α] (l : List α) (g : Xoro) :
    Xoro.shuffle l g =
      (Xoro.shuffle (List.range l.length) g).map (fun r => (r.1.map (fun i => l[i]?.getD default), r.2)) := by
  have h := shuffle_natural (fun i => l[i]?.getD default) (List.range l.length) g
  have hl : (List.range l.length).map (fun i => l[i]?.getD default) = l := by
    apply List.ext_getElem
    · simp
    · intro i h1 h2; simp at h1; simp [h1]
  rwa [hl] at h

/-- **Same generator state, same permutation** (and the environment step draws from nothing
else): `step` is a function of the environment and the generator state. -/
theorem step_deterministic (e : MEnv) (g1 g2 : Xoro) (h : g1 = g2) : e.step g1 = e.step g2 := by
  rw [h]

/-- Non-vacuity and the tie to the real crate: seed 101, batch of 8 — the permutation the real
`slice.shuffle` produces with `Xoroshiro128StarStar::seed_from_u64(101)`. -/
example : (Xoro.shuffle (List.range 8) (Xoro.seed 101)).map (·.1) = some [2, 5, 0, 1, 7, 3, 6, 4] := by
  decide

/-- The real shuffle (any generator state) is the explicit-draw loop on some valid draw vector:
the draw for index `k` is below `k + 1`. -/
theorem shuffle_is_draws {α} (l : List α) (g : Xoro) (l' : List α) (g' : Xoro)
    (h : Xoro.shuffle l g = some (l', g')) :
    ∃ ds ∈ validDraws (l.length - 1), l' = shuffleDraws (l.length - 1) l ds :=
  shuffleFrom_draws _ l g l' g' h

theorem validDraws_count (i : Nat) : (validDraws i).length = (i + 1).factorial := by
  induction i with
  | zero => rfl
  | succ i ih =>
    simp only [validDraws, List.length_flatMap, List.length_map, ih, List.map_const', List.length_range]
    rw [List.sum_replicate_nat, Nat.factorial_succ (i + 1)]

theorem validDraws_nodup (i : Nat) : (validDraws i).Nodup := by
  induction i with
  | zero => simp [validDraws]
  | succ i ih =>
    simp only [validDraws]
    rw [List.nodup_flatMap]
    refine ⟨fun d _ => ih.map (List.cons_injective (a := d)), ?_⟩
    refine List.Pairwise.imp_of_mem ?_ (List.nodup_range (n := i + 2))
    intro a b _ _ hab
    simp only [Function.onFun, List.disjoint_left, List.mem_map]
    rintro x ⟨r, _, rfl⟩ ⟨r', _, h⟩
    exact hab (List.cons.inj h).1.symm

/-- **Uniformity of the shuffle reduces to uniformity of the draws.** For a batch without repeated
items (instructions are distinct queue positions), running the shuffle loop over ALL valid draw
vectors produces every permutation of the batch exactly once: the draw vectors (there are `n!` of
them) and the `n!` processing orders are in bijection. So if the generator's bounded draws are
uniform and independent, every processing order has probability exactly `1/n!`. -/
theorem shuffle_outcomes_are_all_permutations_once {α} [DecidableEq α] (l : List α) (hn : l.Nodup) :
    ((validDraws (l.length - 1)).map (shuffleDraws (l.length - 1) l)).Perm l.permutations := by
  rcases Nat.eq_zero_or_pos l.length with h0 | hpos
  · rw [List.length_eq_zero_iff.mp h0]
    simp [validDraws, shuffleDraws]
  · have hnod : ((validDraws (l.length - 1)).map (shuffleDraws (l.length - 1) l)).Nodup :=
      (validDraws_nodup _).map_on fun ds hds ds' hds' => shuffleDraws_injective _ l hn (by omega) ds ds' hds hds'
    apply (List.subperm_of_subset hnod ?_).perm_of_length_le
    · rw [List.length_permutations, List.length_map, validDraws_count, Nat.sub_add_cancel hpos]
    · intro x hx
      obtain ⟨ds, _, rfl⟩ := List.mem_map.mp hx
      exact List.mem_permutations.mpr (shuffleDraws_perm _ _ _)

/-- Concrete reading (kernel evaluation): the 3! = 6 draw vectors for a batch of three give the six
orders, each once. -/
example : ((validDraws 2).map (shuffleDraws 2 [10, 20, 30])) =
    [[20, 30, 10], [30, 20, 10], [30, 10, 20], [10, 30, 20], [20, 10, 30], [10, 20, 30]] := by decide

/-! ### The two marginal readings of "uniform permutation"

Consequences of `shuffle_outcomes_are_all_permutations_once`, by counting over ALL `n!` valid draw
vectors (each has probability `1/n!` under uniform independent bounded draws): -/

/-- **Every instruction is equally likely to be processed at every position**: for every instruction
`x` of a duplicate-free batch of `n` and every position `i < n`, exactly `(n-1)!` of the `n!` draw
vectors process `x` at position `i` — probability `1/n`, whatever `x`, `i`, the submission order or the
instructions are. -/
theorem every_instruction_equally_likely_at_every_position {α : Type} [DecidableEq α] (l : List α) (hn : l.Nodup)
    (x : α) (hx : x ∈ l) (i : Nat) (hi : i < l.length) :
    ((validDraws (l.length - 1)).map (shuffleDraws (l.length - 1) l)).countP (fun p => p[i]? == some x)
      = (l.length - 1).factorial := by
  rw [(shuffle_outcomes_are_all_permutations_once l hn).countP_eq]
  exact ShuffleCount.count_at_position l hn x hx i hi

/-- **Every relative order of two instructions is equally likely**: for two distinct instructions the
draw vectors that process `x` before `y` are exactly as many as those that process `y` before `x`, and
together they are all `n!` — probability `1/2` each. -/
theorem every_relative_order_equally_likely {α : Type} [DecidableEq α] (l : List α) (hn : l.Nodup)
    (x y : α) (hx : x ∈ l) (hy : y ∈ l) (hxy : x ≠ y) :
    let outcomes := (validDraws (l.length - 1)).map (shuffleDraws (l.length - 1) l)
    outcomes.countP (fun p => decide (p.idxOf x < p.idxOf y)) = outcomes.countP (fun p => decide (p.idxOf y < p.idxOf x)) ∧
    outcomes.countP (fun p => decide (p.idxOf x < p.idxOf y)) + outcomes.countP (fun p => decide (p.idxOf y < p.idxOf x))
      = l.length.factorial := by
  intro outcomes
  simp only [outcomes, (shuffle_outcomes_are_all_permutations_once l hn).countP_eq]
  exact ShuffleCount.count_before l hn x y hx hy hxy

/-- Concrete reading (kernel evaluation) for a batch of three: each instruction stands at each position
in 2 of the 6 outcomes; `10` precedes `30` in 3 of them. -/
example :
    let outcomes := (validDraws 2).map (shuffleDraws 2 [10, 20, 30])
    ([10, 20, 30].map fun x => (List.range 3).map fun i => outcomes.countP (fun p => p[i]? == some x)) = [[2, 2, 2], [2, 2, 2], [2, 2, 2]] ∧
    outcomes.countP (fun p => decide (p.idxOf 10 < p.idxOf 30)) = 3 := by decide

/-! ### Each bounded draw is exactly uniform

The shuffle draws its swap positions with `gen_index(i + 1)` = `gen_range(0..i+1)` for `u32`:
Lemire's widening-multiply method with the rejection zone `(range << range.leading_zeros()) - 1`
(`Xoro.accept`, transcribed from `rand 0.8.5`, and validated against the real crate on every run by
exact schedule prediction). The rejection makes the result exactly — not approximately — uniform. -/

/-- **No modulo bias.** Of the `2^32` possible `u32` draws, exactly `2^lz` (`lz` = leading zeros of
`range`) are accepted with result `r`, the same number for every `r < range`; a draw never yields a
result outside `0..range`. So a uniform `u32` gives, conditional on acceptance, a uniform position —
which is the hypothesis of `shuffle_outcomes_are_all_permutations_once`. -/
theorem bounded_draw_exactly_uniform (range : Nat) (h0 : 0 < range) (h1 : range < 4294967296) :
    (∀ r, r < range →
      ((Finset.range 4294967296).filter (fun v => Xoro.accept range v = some r)).card = 2 ^ Xoro.lz32 range) ∧
    (∀ v r, v < 4294967296 → Xoro.accept range v = some r → r < range) :=
  ⟨fun r hr => Xoro.accept_count range r h0 h1 hr, fun v r hv h => Xoro.accept_lt range v r hv h0 h⟩

/-- **The rejection loop terminates quickly.** At least `2^31` of the `2^32` draws are accepted, so
each iteration ends the loop with probability ≥ 1/2 (the model's fuel of 256 iterations — reported as
a fault when exhausted — fails with probability ≤ `2^-256` per draw under a uniform generator). -/
theorem bounded_draw_accepts_at_least_half (range : Nat) (h0 : 0 < range) (h1 : range < 4294967296) :
    2147483648 ≤ ((Finset.range 4294967296).filter (fun v => (Xoro.accept range v).isSome)).card := by
  obtain ⟨hc, hh⟩ := Xoro.accept_total range h0 h1
  rwa [hc]

/-- `gen_range` returns the result of the first accepted draw of the generator's `u32` stream and
leaves the generator just after it (the loop consumes nothing else). -/
theorem genRange_first_accepted (range fuel : Nat) (g : Xoro) :
    Xoro.genRange range (fuel + 1) g =
      (match Xoro.accept range g.next32.1 with
       | some k => some (k, g.next32.2)
       | none => Xoro.genRange range fuel g.next32.2) := by
  rw [Xoro.genRange]
  rfl

/-- Concrete instances (kernel evaluation): range 3 has 30 leading zeros, zone `3·2^30 − 1`; draws at
the window edges. -/
example : Xoro.lz32 3 = 30 ∧ Xoro.zone 3 = 3221225471 ∧
    Xoro.accept 3 0 = some 0 ∧ Xoro.accept 3 1073741823 = some 0 ∧ Xoro.accept 3 1073741824 = none ∧
    Xoro.accept 3 1431655766 = some 1 ∧ Xoro.accept 3 4294967295 = none := by decide

end Bourse.Props.C15

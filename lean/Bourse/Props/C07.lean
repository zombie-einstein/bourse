/-
C07 — a JSON snapshot restores a behaviourally identical book.
Property theorems only. `save` = the serialised fields, `load` = the rebuild loop of
`TryFrom<OrderBookState>`; the JSON text itself is `Model/Json.lean` (both writers, the reader, the
field encoding), compared character by character with what `serde_json` writes on every run.
-/
import Bourse.Lemmas.NoOverflow
import Bourse.Lemmas.JsonSnap

namespace Bourse.Props.C07
open Bourse

/-- Everything that is serialised comes back verbatim: time, tick size, traded-volume counter,
trading flag, the complete order table (including keys) and the trade log. -/
theorem reload_serialised_fields (b : Book) :
    b.reload.t = b.t ∧ b.reload.tick = b.tick ∧ b.reload.tradeVol = b.tradeVol ∧
    b.reload.trading = b.trading ∧ b.reload.orders = b.orders ∧ b.reload.trades = b.trades := by
  simp [Book.reload, Book.load, Book.save]

/-- Only Active orders are put back into the queues; each goes to the side of its order under its
*stored* key with its *remaining* volume. -/
theorem loadStep_spec (acc : SideS × SideS × Nat) (e : Entry) :
    (e.order.status ≠ .active → Book.loadStep acc e = acc) ∧
    (e.order.status = .active → e.order.side = .bid →
      Book.loadStep acc e = (acc.1.insertOrder e.key.pk e.key.st e.order.id e.order.vol, acc.2.1,
                             max acc.2.2 (e.key.st + 1))) ∧
    (e.order.status = .active → e.order.side = .ask →
      Book.loadStep acc e = (acc.1, acc.2.1.insertOrder e.key.pk e.key.st e.order.id e.order.vol,
                             max acc.2.2 (e.key.st + 1))) := by
  refine ⟨fun h => by simp [Book.loadStep, h], fun h hs => by simp [Book.loadStep, h, hs],
          fun h hs => by simp [Book.loadStep, h, hs]⟩

/-- If a reload restores the two side indexes and the stamp counter, the reloaded book is the
original and therefore indistinguishable from it under every continuation. This is the form for
states not known to satisfy `Inv`; under `Inv` the three hypotheses hold by `load_save`. -/
theorem reload_indistinguishable (b : Book) (hb : b.reload.bid = b.bid) (ha : b.reload.ask = b.ask)
    (hs : b.reload.stamp = b.stamp) (hf : b.fault = false) (ops : List Op) :
    b.reload.run ops = b.run ops := by
  have : b.reload = b := by
    have h := reload_serialised_fields b
    cases b
    simp_all [Book.reload, Book.load, Book.save]
  rw [this]

/-- **`load (save s) = s`** — the whole model state, both rebuilt side indexes and the stamp counter
included — for every state satisfying the book invariant. -/
theorem load_save (b : Book) (h : Inv b) : Book.load (Book.save b) = b := reload_eq h

/-- **Every reachable state round-trips, and stays indistinguishable under every continuation**:
after any valid fault-free history from a new book, the reloaded book is the original, hence so is
every later state and observation, whatever operations follow. -/
theorem reload_reachable_indistinguishable (t0 tick : Nat) (trading : Bool) (ht : 0 < tick) (ops : List Op)
    (hv : ∀ op ∈ ops, ValidOp op) (hnf : NoFault (Book.new t0 tick trading) ops) (cont : List Op) (n : Nat) :
    ((Book.new t0 tick trading).run ops).reload = (Book.new t0 tick trading).run ops ∧
    (((Book.new t0 tick trading).run ops).reload.run cont).observe n =
      (((Book.new t0 tick trading).run ops).run cont).observe n := by
  have h := reload_eq (inv_reachable t0 tick trading ht ops hv hnf)
  exact ⟨h, by rw [h]⟩

/-- The snapshot point may be anywhere inside a history: a reload in the middle of a valid
fault-free history is the identity step of the model. -/
theorem reload_step_is_identity (b : Book) (h : Inv b) : (b.step .reload).1 = b := by
  simp only [Book.step]
  split
  · rfl
  · exact reload_eq h

/-- Non-vacuity and a concrete instance of the round trip: a book holding unplaced, active,
partially filled, modified, cancelled, filled and rejected orders, trading off, reloads to exactly
itself (whole model state, both rebuilt indexes included). -/
theorem reload_concrete :
    let b := (Book.new 0 1 true).run [.cap .ask 5 1 (some 10), .time 1, .cap .ask 7 2 (some 10), .time 2,
      .cap .bid 3 3 (some 10), .time 3, .cap .bid 4 4 (some 8), .time 4, .cap .bid 6 5 (some 8),
      .create .bid 2 6 (some 7), .time 5, .cancel 3, .time 6, .modify 4 (some 9) (some 9),
      .trading false, .cap .ask 1 7 none, .time 7, .modify 1 none (some 4)]
    b.reload = b ∧ (b.orders.map (·.order.status)) =
      [.active, .active, .filled, .cancelled, .active, .new, .rejected] := by
  decide

/-- `reload_reachable_indistinguishable` for valid histories as the property states them. -/
theorem reload_indistinguishable_valid (t0 tick : Nat) (trading : Bool) (ops : List Op)
    (h : ValidHistory t0 tick trading ops) (cont : List Op) (n : Nat) :
    ((Book.new t0 tick trading).run ops).reload = (Book.new t0 tick trading).run ops ∧
    (((Book.new t0 tick trading).run ops).reload.run cont).observe n =
      (((Book.new t0 tick trading).run ops).run cont).observe n :=
  reload_reachable_indistinguishable t0 tick trading h.tick_pos ops h.ops_valid h.noFault cont n

open Bourse.Json in
/-- **C07, last sentence, for a book.** The text `save_json` writes for ANY book state (compact or
pretty), cut short at ANY offset `k` — the empty file included — is not loaded: the reader returns
an error (`none`), it neither yields a different book nor diverges (the reader is a total function). -/
theorem truncated_snapshot_rejected (b : Book) (pretty : Bool) (k : Nat)
    (hk : k < (saveText b pretty).length) : loadText ((saveText b pretty).take k) = none := by
  have hrej : parse ((saveText b pretty).take k) = none := by
    rw [saveText, render_eq_renderW] at hk ⊢
    exact take_renderW_rejected _ (layoutOf_ws pretty) _ (snapJ_wf2 b.save).wf k hk
  rw [loadText, hrej]
  rfl

open Bourse.Json in
/-- **The same for a multi-asset market file** (`{"order_books":[…]}`), any number of books. The
text spelled out with `if pretty` is `saveMarketText books pretty`. -/
theorem truncated_market_snapshot_rejected (books : List Book) (pretty : Bool) (k : Nat)
    (hk : k < (if pretty then renderPretty 0 (marketJ (books.map Book.save))
               else renderCompact (marketJ (books.map Book.save))).length) :
    parse ((if pretty then renderPretty 0 (marketJ (books.map Book.save))
            else renderCompact (marketJ (books.map Book.save))).take k) = none := by
  rw [render_eq_renderW] at hk ⊢
  exact take_renderW_rejected _ (layoutOf_ws pretty) _ (marketJ_wf2 _).wf k hk

open Bourse.Json in
/-- **Reading back what either writer wrote gives the value written**: `parse (render j) = some j`
for every JSON value whose strings need no escaping (all snapshot values), compact and pretty. -/
theorem text_round_trip (j : J) (h : j.WF2) :
    parse (renderCompact j) = some j ∧ parse (renderPretty 0 j) = some j :=
  ⟨parse_render false j h, parse_render true j h⟩

open Bourse.Json in
/-- **C07, first sentence, down to the bytes.** For every book state satisfying the invariant whose
numbers fit their Rust field types, the text `save_json` writes — compact or pretty — loads back, through
the reader, the field decoding and the rebuild loop, to exactly the book that was saved: whole
state, both rebuilt indexes and the stamp counter included. -/
theorem loadText_saveText (b : Book) (h : Inv b) (hfit : SnapFits b.save) (pretty : Bool) :
    loadText (saveText b pretty) = some b := by
  unfold loadText
  rw [decode_saveText b pretty hfit]
  simp only [Option.map_some]
  exact congrArg some (reload_eq h)

open Bourse.Json in
/-- … in particular after every valid history, and the reloaded book then stays indistinguishable
under every continuation (`reload_indistinguishable_valid`). -/
theorem loadText_saveText_valid (t0 tick : Nat) (trading : Bool) (ops : List Op)
    (h : ValidHistory t0 tick trading ops) (pretty : Bool)
    (hfit : SnapFits ((Book.new t0 tick trading).run ops).save) :
    loadText (saveText ((Book.new t0 tick trading).run ops) pretty) = some ((Book.new t0 tick trading).run ops) :=
  loadText_saveText _ h.inv hfit pretty

open Bourse.Json in
/-- **The same for a multi-asset market file**: `Market::save_json` then `Market::<n,_>::load_json`
gives back every book, for any number of assets. -/
theorem loadMarketText_saveMarketText (books : List Book) (pretty : Bool)
    (hfit : ∀ b ∈ books, SnapFits b.save) (hinv : ∀ b ∈ books, Inv b) :
    loadMarketText books.length (saveMarketText books pretty) = some books := by
  have hm := marketOf_marketJ (books.map Book.save) (List.forall_mem_map.mpr hfit)
  rw [List.length_map] at hm
  rw [loadMarketText, saveMarketText, parse_render pretty _ (marketJ_wf2 _), Option.bind_some, hm, Option.map_some,
    List.map_map, List.map_congr_left (f := Book.load ∘ Book.save) (g := id) fun b hb => reload_eq (hinv b hb), List.map_id]

open Bourse.Json in
/-- Non-vacuity / concrete instance: a book with a partially filled, a filled and an unplaced order
satisfies the hypotheses of `loadText_saveText_valid` (a valid history, numbers that fit), so its
full texts load back to exactly that book, compact and pretty; and the compact text has the length
of the one `serde_json` writes (the texts themselves are compared with the real crate on every run).
Only the length is evaluated. -/
theorem snapshot_text_concrete :
    let b := (Book.new 0 1 true).run [.cap .ask 5 1 (some 10), .time 1, .cap .bid 3 3 (some 10), .create .bid 2 6 (some 7)]
    loadText (saveText b false) = some b ∧ loadText (saveText b true) = some b ∧
    (saveText b false).length = 663 := by
  intro b
  have hfit : SnapFits b.save := by decide
  have key : ∀ pretty, loadText (saveText b pretty) = some b := fun pretty =>
    loadText_saveText_valid 0 1 true _ ⟨by decide, by decide, by decide⟩ pretty hfit
  exact ⟨key false, key true, by decide +kernel⟩

end Bourse.Props.C07

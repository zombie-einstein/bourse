/-
C10 — queued instructions are invisible until the next step.
The property theorems and the definitions they are stated with.
-/
import Bourse.Lemmas.EnvInv
import Bourse.Props.C14

namespace Bourse.Props.C10
open Bourse

/-- Every market-data view of a book is a function of its two side structures (and the tick
size) only — never of the order table. -/
theorem views_depend_on_sides (b b' : Book) (n : Nat) (hb : b'.bid = b.bid) (ha : b'.ask = b.ask)
    (ht : b'.tick = b.tick) :
    b'.bidAsk = b.bidAsk ∧ b'.bidVol = b.bidVol ∧ b'.askVol = b.askVol ∧
    b'.bidBestVolAndOrders = b.bidBestVolAndOrders ∧ b'.askBestVolAndOrders = b.askBestVolAndOrders ∧
    b'.bidLevels n = b.bidLevels n ∧ b'.askLevels n = b.askLevels n ∧
    b'.level1 = b.level1 ∧ b'.level2 n = b.level2 n ∧ b'.mid2 = b.mid2 := by
  simp [Book.bidAsk, Book.bidVol, Book.askVol, Book.bidBestVolAndOrders, Book.askBestVolAndOrders,
    Book.bidLevels, Book.askLevels, Book.level1, Book.level2, Book.mid2, hb, ha, ht]

/-- **Queued cancellations and modifications are invisible**: nothing but the queue changes. -/
theorem env_cancel_modify_invisible (e : MEnv) (a id : Nat) (p v : Option Nat) :
    e.cancelOrder a id = { e with queue := e.queue ++ [(a, .cancel id)] } ∧
    e.modifyOrder a id p v = { e with queue := e.queue ++ [(a, .modify id p v)] } := ⟨rfl, rfl⟩

/-- The snapshot handed to agents equals the live books' level-2 data. -/
def CacheOk (e : MEnv) : Prop := e.l2 = e.market.level2 e.nLevels

theorem cache_init (t0 : Nat) (ticks : List Nat) (step : Nat) (trading : Bool) (n : Nat) :
    CacheOk (MEnv.new t0 ticks step trading n) := rfl

theorem toggle_level2 (m : Market) (n : Nat) :
    m.enableTrading.level2 n = m.level2 n ∧ m.disableTrading.level2 n = m.level2 n := by
  simp [Market.enableTrading, Market.disableTrading, Market.level2, Book.enableTrading, Book.disableTrading,
    Book.level2, Book.bidAsk, Book.bidVol, Book.askVol, Book.bidLevels, Book.askLevels]

/-- `b'` is `b` with some orders of status New appended to its table and nothing else changed. -/
def BookExt (b b' : Book) : Prop :=
  b'.bid = b.bid ∧ b'.ask = b.ask ∧ b'.tick = b.tick ∧ b'.t = b.t ∧ b'.trades = b.trades ∧
  b'.tradeVol = b.tradeVol ∧ b'.trading = b.trading ∧ b'.stamp = b.stamp ∧
  ∃ news : List Entry, b'.orders = b.orders ++ news ∧ ∀ x ∈ news, x.order.status = .new

theorem BookExt.bid {b b' : Book} (h : BookExt b b') : b'.bid = b.bid := h.1
theorem BookExt.ask {b b' : Book} (h : BookExt b b') : b'.ask = b.ask := h.2.1
theorem BookExt.tick {b b' : Book} (h : BookExt b b') : b'.tick = b.tick := h.2.2.1
theorem BookExt.t {b b' : Book} (h : BookExt b b') : b'.t = b.t := h.2.2.2.1
theorem BookExt.trades {b b' : Book} (h : BookExt b b') : b'.trades = b.trades := h.2.2.2.2.1
theorem BookExt.tradeVol {b b' : Book} (h : BookExt b b') : b'.tradeVol = b.tradeVol := h.2.2.2.2.2.1

theorem BookExt.level2 {b b' : Book} (h : BookExt b b') (n : Nat) : b'.level2 n = b.level2 n := by
  obtain ⟨_, _, _, _, _, _, _, _, hl2, _⟩ := views_depend_on_sides b b' n h.bid h.ask h.tick
  exact hl2

theorem BookExt.refl (b : Book) : BookExt b b :=
  ⟨rfl, rfl, rfl, rfl, rfl, rfl, rfl, rfl, [], by simp, by simp⟩

theorem BookExt.trans {a b c : Book} (h1 : BookExt a b) (h2 : BookExt b c) : BookExt a c := by
  obtain ⟨a1, a2, a3, a4, a5, a6, a7, a8, n1, e1, s1⟩ := h1
  obtain ⟨b1, b2, b3, b4, b5, b6, b7, b8, n2, e2, s2⟩ := h2
  exact ⟨b1.trans a1, b2.trans a2, b3.trans a3, b4.trans a4, b5.trans a5, b6.trans a6, b7.trans a7, b8.trans a8,
    n1 ++ n2, by rw [e2, e1, List.append_assoc], List.forall_mem_append.mpr ⟨s1, s2⟩⟩

theorem BookExt.of_create (b : Book) (sd : Side) (vol tr : Nat) (p : Option Nat) :
    BookExt b (b.createOrder sd vol tr p).1 :=
  Book.createOrder_shapes (motive := fun r => BookExt b r.1) b sd vol tr p (fun _ _ _ => .refl b)
    fun _ => ⟨rfl, rfl, rfl, rfl, rfl, rfl, rfl, rfl, [_], rfl, by simp [Book.mkOrder]⟩

def MarketExt (m m' : Market) : Prop :=
  m'.books.length = m.books.length ∧
  ∀ (a : Nat) (b : Book), m.books[a]? = some b → ∃ b', m'.books[a]? = some b' ∧ BookExt b b'

theorem MarketExt.refl (m : Market) : MarketExt m m := ⟨rfl, fun _ b h => ⟨b, h, BookExt.refl b⟩⟩

theorem MarketExt.trans {a b c : Market} (h1 : MarketExt a b) (h2 : MarketExt b c) : MarketExt a c := by
  refine ⟨h2.1.trans h1.1, ?_⟩
  intro i x hx
  obtain ⟨y, hy, e1⟩ := h1.2 i x hx
  obtain ⟨z, hz, e2⟩ := h2.2 i y hy
  exact ⟨z, hz, e1.trans e2⟩

theorem MarketExt.of_create (m : Market) (a : Nat) (sd : Side) (vol tr : Nat) (p : Option Nat) :
    MarketExt m (m.createOrder a sd vol tr p).1 := by
  refine ⟨C14.n_assets_constant m (.on a _), fun i x hx => ?_⟩
  rw [Market.createOrder, C14.stepOn_books, hx]
  split
  · exact ⟨_, rfl, BookExt.of_create x sd vol tr p⟩
  · exact ⟨x, rfl, BookExt.refl x⟩

/-- Appended New orders are in no view: the level-2 data of every book is unchanged. -/
theorem MarketExt.level2 {m m' : Market} (h : MarketExt m m') (n : Nat) : m'.level2 n = m.level2 n := by
  apply List.ext_getElem?
  intro i
  simp only [Market.level2, List.getElem?_map]
  cases hb : m.books[i]? with
  | none =>
    rw [List.getElem?_eq_none_iff.mpr (h.1 ▸ List.getElem?_eq_none_iff.mp hb)]
  | some b =>
    obtain ⟨b', hb', hx⟩ := h.2 i b hb
    rw [hb']
    exact congrArg some (hx.level2 n)

/-- Submissions: new orders, queued cancellations, queued modifications (no step, no switch). -/
def IsSubmission : MEnv.EOp → Prop
  | .submit .. | .qcancel .. | .qmodify .. => True
  | _ => False

/-- What submissions cannot change: `e'` is `e` but for its queue and for New orders appended to
the order tables of its books. -/
structure Unseen (e e' : MEnv) : Prop where
  l2 : e'.l2 = e.l2
  records : e'.records = e.records
  tradeVols : e'.tradeVols = e.tradeVols
  stepSize : e'.stepSize = e.stepSize
  nLevels : e'.nLevels = e.nLevels
  fault : e'.fault = e.fault
  market : MarketExt e.market e'.market

theorem Unseen.refl (e : MEnv) : Unseen e e := ⟨rfl, rfl, rfl, rfl, rfl, rfl, .refl _⟩

theorem Unseen.trans {a b c : MEnv} (h1 : Unseen a b) (h2 : Unseen b c) : Unseen a c :=
  ⟨h2.l2.trans h1.l2, h2.records.trans h1.records, h2.tradeVols.trans h1.tradeVols, h2.stepSize.trans h1.stepSize,
   h2.nLevels.trans h1.nLevels, h2.fault.trans h1.fault, h1.market.trans h2.market⟩

theorem Unseen.apply (e : MEnv) (g : Xoro) {op : MEnv.EOp} (h : IsSubmission op) :
    (e.apply g op).1.2 = g ∧ Unseen e (e.apply g op).1.1 := by
  cases op with
  | submit a sd vol tr p =>
    refine ⟨rfl, ?_⟩
    simp only [MEnv.apply, MEnv.placeOrder]
    split <;> exact ⟨rfl, rfl, rfl, rfl, rfl, rfl, MarketExt.of_create ..⟩
  | qcancel a id | qmodify a id p v => exact ⟨rfl, rfl, rfl, rfl, rfl, rfl, rfl, .refl _⟩
  | step => exact h.elim
  | trading on => exact h.elim

theorem Unseen.runOps (s : MEnv × Xoro) (ops : List MEnv.EOp) (hs : ∀ op ∈ ops, IsSubmission op) :
    (MEnv.runOps s ops).2 = s.2 ∧ Unseen s.1 (MEnv.runOps s ops).1 := by
  induction ops generalizing s with
  | nil => exact ⟨rfl, .refl _⟩
  | cons op rest ih =>
    obtain ⟨hg, hu⟩ := Unseen.apply s.1 s.2 (hs op List.mem_cons_self)
    obtain ⟨hg', hu'⟩ := ih (s.1.apply s.2 op).1 fun o ho => hs o (List.mem_cons_of_mem _ ho)
    exact ⟨hg'.trans hg, hu.trans hu'⟩

/-- **Submitting a new order is invisible**: in the environment only the addressed book's order
table (one more New order) and the instruction queue change; the cached level-2 data, every
recorded series, the per-step traded volumes and every other book are literally unchanged, and
the addressed book's level-2 data is unchanged. -/
theorem env_place_invisible (e : MEnv) (a : Nat) (sd : Side) (vol tr : Nat) (p : Option Nat) :
    let e' := (e.placeOrder a sd vol tr p).1
    e'.l2 = e.l2 ∧ e'.records = e.records ∧ e'.tradeVols = e.tradeVols ∧ e'.stepSize = e.stepSize ∧
    e'.market.level2 e.nLevels = e.market.level2 e.nLevels ∧
    (∀ a', a' ≠ a → e'.market.books[a']? = e.market.books[a']?) := by
  have u := (Unseen.apply e (Xoro.seed 0) (op := .submit a sd vol tr p) trivial).2
  refine ⟨u.l2, u.records, u.tradeVols, u.stepSize, u.market.level2 _, fun a' hne => ?_⟩
  rw [MEnv.placeOrder_market, Market.createOrder, C14.stepOn_books, if_neg (Ne.symm hne)]

theorem Unseen.cacheOk {e e' : MEnv} (u : Unseen e e') (h : CacheOk e) : CacheOk e' := by
  unfold CacheOk at h ⊢
  rw [u.l2, u.nLevels, u.market.level2, h]

/-- **The cached snapshot is always the live level-2 data as of the end of the most recent step
(or of construction)**: it is set from the live books at the end of every step and no operation
between steps changes either the cache or the live level-2 data. -/
theorem cache_inv (e : MEnv) (g : Xoro) (op : MEnv.EOp) (h : CacheOk e) (hf : (e.apply g op).1.1.fault = false) :
    CacheOk (e.apply g op).1.1 := by
  by_cases hsub : IsSubmission op
  · exact (Unseen.apply e g hsub).2.cacheOk h
  unfold CacheOk at h ⊢
  cases op with
  | step =>
    simp only [MEnv.apply, MEnv.step] at hf ⊢
    split
    · rfl
    · rename_i hs; simp [hs] at hf
  | trading on =>
    cases on
    · exact h.trans (toggle_level2 _ _).2.symm
    · exact h.trans (toggle_level2 _ _).1.symm
  | _ => exact absurd trivial hsub

/-- **Between steps, any sequence of submissions changes nothing observable except that each newly
created order appears in its asset's order list with status New.** After ANY number of `place_order` /
`cancel_order` / `modify_order` calls on an environment (instructions that would trade, cancel or
re-price at once if applied directly included): the cached level-2 snapshot, every recorded series,
the per-step traded volumes and the generator are literally unchanged; every book has the same two
sides (hence every market-data view, `views_depend_on_sides`), clock, trade log, traded-volume counter,
trading flag and stamp counter as before, and its order table is the old one followed by New orders. -/
theorem submissions_invisible (s : MEnv × Xoro) (ops : List MEnv.EOp) (hs : ∀ op ∈ ops, IsSubmission op) :
    let s' := MEnv.runOps s ops
    s'.2 = s.2 ∧ s'.1.l2 = s.1.l2 ∧ s'.1.records = s.1.records ∧ s'.1.tradeVols = s.1.tradeVols ∧
    s'.1.stepSize = s.1.stepSize ∧ s'.1.nLevels = s.1.nLevels ∧ MarketExt s.1.market s'.1.market :=
  have ⟨hg, h⟩ := Unseen.runOps s ops hs
  ⟨hg, h.l2, h.records, h.tradeVols, h.stepSize, h.nLevels, h.market⟩

/-- … so every published view of every book is what it was before the submissions. -/
theorem submissions_keep_every_view (s : MEnv × Xoro) (ops : List MEnv.EOp) (hs : ∀ op ∈ ops, IsSubmission op)
    (a : Nat) (b : Book) (hb : s.1.market.books[a]? = some b) (n : Nat) :
    ∃ b', (MEnv.runOps s ops).1.market.books[a]? = some b' ∧
      b'.bidAsk = b.bidAsk ∧ b'.bidVol = b.bidVol ∧ b'.askVol = b.askVol ∧
      b'.bidLevels n = b.bidLevels n ∧ b'.askLevels n = b.askLevels n ∧
      b'.level1 = b.level1 ∧ b'.level2 n = b.level2 n ∧ b'.mid2 = b.mid2 ∧
      b'.trades = b.trades ∧ b'.t = b.t ∧ b'.tradeVol = b.tradeVol := by
  obtain ⟨b', hb', hx⟩ := (Unseen.runOps s ops hs).2.market.2 a b hb
  obtain ⟨hba, hbv, hav, _, _, hbl, hal, hl1, hl2, hmid⟩ := views_depend_on_sides b b' n hx.bid hx.ask hx.tick
  exact ⟨b', hb', hba, hbv, hav, hbl, hal, hl1, hl2, hmid, hx.trades, hx.t, hx.tradeVol⟩

/-- **The snapshot handed to agents is the live level-2 data as of the end of the most recent step,
along every history**: `CacheOk` holds in every state an environment reaches by submissions, queued
instructions, switches and steps. -/
theorem cache_always_live (s : MEnv × Xoro) (h : CacheOk s.1) (ops : List MEnv.EOp)
    (hnf : ∀ k, k ≤ ops.length → (MEnv.runOps s (ops.take k)).1.fault = false) :
    CacheOk (MEnv.runOps s ops).1 := by
  induction ops generalizing s with
  | nil => exact h
  | cons op rest ih =>
    simp only [MEnv.runOps]
    have h1 : (s.1.apply s.2 op).1.1.fault = false := by
      have := hnf 1 (by simp)
      simpa [MEnv.runOps] using this
    apply ih _ (cache_inv s.1 s.2 op h h1)
    intro k hk
    have := hnf (k + 1) (by simp; omega)
    simpa [MEnv.runOps] using this

/-- Non-vacuity: instructions that would trade / cancel / re-price immediately if applied directly
leave the published data untouched until the step. -/
example :
    let e0 := ((MEnv.new 0 [1] 10 true 2).placeOrder 0 .ask 5 1 (some 10)).1
    let e1 := (e0.step (Xoro.seed 1)).1
    let e2 := (((e1.placeOrder 0 .bid 5 2 (some 10)).1.cancelOrder 0 0).modifyOrder 0 0 (some 7) none)
    e2.l2 = e1.l2 ∧ e2.market.level2 2 = e1.market.level2 2 ∧ e2.records = e1.records ∧
      (e2.market.books.map (·.trades)) = [[]] ∧ e2.queue.length = 3 ∧
      (e2.market.books.map (fun b => b.orders.map (·.order.status))) = [[.active, .new]] := by decide

end Bourse.Props.C10

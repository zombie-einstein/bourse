/-
C20 — derived agent sets update every member once, in declaration order, on the shared state.
The property theorems and the definitions they are stated with.
-/
import Bourse.Model.AgentSet
import Bourse.Generated.DeriveTemplate

namespace Bourse.Props.C20
open Bourse
open Bourse.Generated.Derive

/-- The emission loop the model `derive` implements. -/
def modelLoop : List String :=
  ["for", "field", "in", "fields", "{", "let", "field_name", "=", "field", ".", "ident", ".", "clone", "(", ")", ";",
   "if", "field_name", ".", "is_some", "(", ")", "{", "call_tokens", ".", "extend", "(", "quote!", "(",
   "self", ".", "#", "field_name", ".", "update", "(", "env", ",", "rng", ")", ";", ")", ")", ";", "}", "}"]

/-- How both macros obtain the field list: the named fields of the struct, as declared. -/
def modelPre : List String :=
  ["let", "name", "=", "&", "ast", ".", "ident", ";", "let", "fields", "=", "match", "&", "ast", ".", "data", "{",
   "syn", "::", "Data", "::", "Struct", "(", "syn", "::", "DataStruct", "{", "fields", ":", "syn", "::", "Fields", "::",
   "Named", "(", "fields", ")", ",", "..", "}", ")", "=>", "&", "fields", ".", "named", ",", "_", "=>", "panic!", "(",
   "\"expected a struct with named fields\"", ")", ",", "}", ";", "let", "mut", "call_tokens", "=", "quote!", "(", ")", ";"]

/-- **The source (as translated on this run) is the template the model assumes**, for both
macros: fields taken as declared, one `self.<field>.update(env, rng);` per named field in loop
order, spliced as the whole body of `update`, which hands over the same `env` and `rng`. -/
theorem template_is_model :
    agents_loop = modelLoop ∧ market_loop = modelLoop ∧ agents_pre = modelPre ∧ market_pre = modelPre ∧
    agents_post = ["let", "output", "=", "quote!", "{", "impl", "bourse_de", "::", "agents", "::", "AgentSet", "for", "#", "name", "{",
      "fn", "update", "<", "R", ":", "rand", "::", "RngCore", ">", "(", "&", "mut", "self", ",", "env", ":", "&", "mut",
      "bourse_de", "::", "Env", ",", "rng", ":", "&", "mut", "R", ")", "{", "#", "call_tokens", "}", "}", "}", ";",
      "TokenStream", "::", "from", "(", "output", ")"] ∧
    market_post = ["let", "output", "=", "quote!", "{", "impl", "bourse_de", "::", "agents", "::", "MarketAgentSet", "for", "#", "name", "{",
      "fn", "update", "<", "R", ":", "rand", "::", "RngCore", ",", "const", "M", ":", "usize", ",", "const", "N", ":", "usize", ">",
      "(", "&", "mut", "self", ",", "env", ":", "&", "mut", "bourse_de", "::", "MarketEnv", "<", "M", ",", "N", ">", ",",
      "rng", ":", "&", "mut", "R", ")", "{", "#", "call_tokens", "}", "}", "}", ";", "TokenStream", "::", "from", "(", "output", ")"] ∧
    agents_entry = ["let", "ast", "=", "syn", "::", "parse", "(", "input", ")", ".", "unwrap", "(", ")", ";", "impl_agents_macro", "(", "&", "ast", ")"] ∧
    market_entry = ["let", "ast", "=", "syn", "::", "parse", "(", "input", ")", ".", "unwrap", "(", ")", ";", "impl_market_agents_macro", "(", "&", "ast", ")"] :=
  ⟨rfl, rfl, rfl, rfl, rfl, rfl, rfl, rfl⟩

/-- **Every field exactly once, in declaration order**: the calls emitted for named fields
`f₁ … fₙ` are exactly `f₁ … fₙ`. -/
theorem derive_calls (names : List String) : callLog (derive (names.map some)) = names := by
  induction names with
  | nil => rfl
  | cons n ns ih =>
    simp only [derive, List.map_cons, List.filterMap_cons, Option.map_some, callLog] at ih ⊢
    rw [ih]

def foldLeaves (ls : List (Nat × Nat)) (s : SetSt) : SetSt :=
  ls.foldl (fun s l => probeUpdate l.1 l.2 s) s

theorem foldLeaves_append (a b : List (Nat × Nat)) (s : SetSt) :
    foldLeaves (a ++ b) s = foldLeaves b (foldLeaves a s) := by
  simp [foldLeaves, List.foldl_append]

mutual
theorem member_update_eq (m : Member) (s : SetSt) : m.update s = foldLeaves m.leaves s := by
  cases m with
  | probe tag draws => simp [Member.update, Member.leaves, foldLeaves]
  | set ms => simp only [Member.update, Member.leaves]; exact members_update_eq ms s
theorem members_update_eq (ms : Members) (s : SetSt) : ms.updateAll s = foldLeaves ms.leaves s := by
  cases ms with
  | nil => simp [Members.updateAll, Members.leaves, foldLeaves]
  | cons m ms =>
    simp only [Members.updateAll, Members.leaves]
    rw [foldLeaves_append, ← member_update_eq m s, members_update_eq ms]
end

/-- **Interchangeable with the hand-written sequence, also when nested**: updating a derived set
is the same as updating its leaf agents one after another in preorder (declaration order with
nested sets expanded in place), all on the one shared environment and generator. -/
theorem derived_eq_handwritten (ms : Members) (s : SetSt) :
    (Member.set ms).update s = foldLeaves ms.leaves s := member_update_eq (.set ms) s

/-- A probe's log entries carry its own tag, one per draw; older entries and the environment are
untouched while it draws. -/
theorem probeDraws_log (tag n : Nat) (s : SetSt) :
    ∃ ext, (probeDraws tag n s).log = s.log ++ ext ∧ ext.map (·.1) = List.replicate n tag ∧
      (probeDraws tag n s).env = s.env := by
  induction n generalizing s with
  | zero => exact ⟨[], by simp [probeDraws]⟩
  | succ n ih =>
    simp only [probeDraws]
    obtain ⟨ext, h1, h2, h3⟩ := ih { s with log := s.log ++ [(tag, s.g.next.1, ((s.env.market.books[0]?).map (·.orders.length)).getD 0)], g := s.g.next.2 }
    refine ⟨(tag, s.g.next.1, ((s.env.market.books[0]?).map (·.orders.length)).getD 0) :: ext, ?_, ?_, h3⟩
    · rw [h1]; simp
    · simp [h2, List.replicate_succ]

/-- Non-vacuity and the concrete reading: the shape `{ k: Probe2, inner: { a: Probe }, z: Probe2, y: Probe }`
(tags 0..3) logs tags `0 0 1 2 2 3` with six successive generator outputs, per update. -/
example :
    let top : Members := .cons (.probe 0 2) (.cons (.set (.cons (.probe 1 1) .nil)) (.cons (.probe 2 2) (.cons (.probe 3 1) .nil)))
    let s0 : SetSt := { log := [], env := MEnv.new 0 [1] 100 true 10, g := Xoro.seed 3 }
    ((runShape top 1 s0).log.map (·.1)) = [0, 0, 1, 2, 2, 3] ∧
    ((runShape top 1 s0).log.map (·.2.2)) = [0, 0, 1, 2, 2, 3] ∧
    ((runShape top 1 s0).log.map (·.2.1)).take 2 = [8743207885743740680, 6859422025971031132] := by
  decide

end Bourse.Props.C20

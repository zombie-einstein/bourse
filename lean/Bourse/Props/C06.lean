/-
C06 — a modification keeps queue priority only for pure volume reductions: the dispatch of
`modify_order` in the implementation model, the same facts about the reference engine alone
(`ref_*`), and the two tied together by the refinement.
-/
import Bourse.Lemmas.RefineStep
import Bourse.Lemmas.NoOverflow

namespace Bourse.Props.C06
open Bourse

/-- **Dispatch table** of a modification of an Active order on `(new_price, new_vol)`:
nothing given → nothing happens; only a smaller volume → reduced in place; anything else
(a price is given, or the volume is not smaller) → taken out and re-entered; omitted fields keep
their current values. -/
theorem modify_dispatch (b : Book) (e : Entry) (p v : Nat) :
    b.modifyEntry e none none = (b, e) ∧
    (v < e.order.vol → b.modifyEntry e none (some v) = b.reduceOrderVol e (e.order.vol - v)) ∧
    (¬ v < e.order.vol → b.modifyEntry e none (some v) = b.replaceOrder e e.order.price v) ∧
    b.modifyEntry e (some p) none = b.replaceOrder e p e.order.vol ∧
    b.modifyEntry e (some p) (some v) = b.replaceOrder e p v := by
  refine ⟨rfl, ?_, ?_, rfl, rfl⟩ <;> intro h <;> simp [Book.modifyEntry, h]

/-- A modification with nothing to change does nothing (whole model state equal). -/
theorem modify_none_none_noop (b : Book) (id : Nat) (e : Entry) (h : b.orders[id]? = some e) :
    b.modifyOrder id none none = b := by
  simp only [Book.modifyOrder, h, Book.offGrid]
  by_cases ha : e.order.status = .active
  · simp [ha, Book.modifyEntry, Book.writeBack, set_of_getElem? h]
  · simp [ha]

/-- **A pure volume reduction keeps its place in the queue**: both priority queues (the maps from
(price key, stamp) to order id) are unchanged, so is the stamp counter, the order's key, the trade
log and every other order; only the order's volume and its side's published volumes change. -/
theorem reduce_keeps_position (b : Book) (e : Entry) (red : Nat) :
    let r := b.reduceOrderVol e red
    r.1.bid.orders = b.bid.orders ∧ r.1.ask.orders = b.ask.orders ∧ r.1.stamp = b.stamp ∧
    r.2.key = e.key ∧ r.1.trades = b.trades ∧ r.1.orders = b.orders ∧
    r.2.order = { e.order with vol := e.order.vol - red } ∧
    r.1.side e.key.side = (b.side e.key.side).removeVol e.key.pk red ∧
    r.1.side e.key.side.opp = b.side e.key.side.opp := by
  simp only [Book.reduceOrderVol]
  refine ⟨?_, ?_, by simp, trivial, by simp, by simp, trivial, by simp, by simp⟩
  · cases h : e.key.side <;> simp [Book.setSide, Book.side, removeVol_orders]
  · cases h : e.key.side <;> simp [Book.setSide, Book.side, removeVol_orders]

/-- The reduced order ends with exactly the requested volume. -/
theorem reduce_sets_volume (b : Book) (e : Entry) (v : Nat) (h : v < e.order.vol) :
    (b.modifyEntry e none (some v)).2.order.vol = v := by
  simp [Book.modifyEntry, h, Book.reduceOrderVol]; omega

/-- **Any other modification re-enters the order as if newly arrived**: it is removed from its
queue with its current volume, matched against the opposite side with the new price and volume
(when trading), and — unless completely filled — queued under the *new* price key with the *next*
stamp, i.e. behind every order already resting at that price. -/
theorem replace_is_reenter (b : Book) (e : Entry) (np nv : Nat) :
    let e' : Entry := { e with order := { e.order with vol := nv, price := np } }
    let r := Book.matchIfTrading e.key.side (b.dequeue e) e'
    b.replaceOrder e np nv =
      (if r.2.order.status ≠ .filled then Book.enqueue e.key.side r.1 r.2 (priceKey e.key.side np) else r) ∧
    (r.2.order.status ≠ .filled →
      (b.replaceOrder e np nv).2.key = ⟨e.key.side, priceKey e.key.side np, b.stamp⟩ ∧
      (b.replaceOrder e np nv).1.stamp = b.stamp + 1) := by
  refine ⟨rfl, fun h => ?_⟩
  have hf := Book.matchIfTrading_matchFrame e.key.side (b.dequeue e)
    { e with order := { e.order with vol := nv, price := np } }
  simp [Book.replaceOrder, Book.restUnlessFilled, h, Book.enqueue, hf.stamp]

/-- A re-entered order keeps its id, side, trader, original arrival time and starting volume,
and carries the new price. -/
theorem replace_keeps_identity (b : Book) (e : Entry) (np nv : Nat) :
    let o := (b.replaceOrder e np nv).2.order
    o.id = e.order.id ∧ o.side = e.order.side ∧ o.trader = e.order.trader ∧ o.arr = e.order.arr ∧
    o.svol = e.order.svol ∧ o.price = np := by
  have hi := Book.matchIfTrading_matchFrame e.key.side (b.dequeue e)
    { e with order := { e.order with vol := nv, price := np } }
  simp only [Book.replaceOrder]
  rw [Book.restUnlessFilled_order]
  exact ⟨hi.id, hi.side, hi.trader, hi.arr, hi.svol, hi.price⟩

/-- While trading is disabled the re-entered order rests with exactly the new volume. -/
theorem replace_no_trading_rests (b : Book) (e : Entry) (np nv : Nat) (h : b.trading = false)
    (ha : e.order.status = .active) :
    (b.replaceOrder e np nv).2.order = { e.order with vol := nv, price := np } ∧
    (b.replaceOrder e np nv).1.side e.key.side =
      ((b.dequeue e).side e.key.side).insertOrder (priceKey e.key.side np) b.stamp e.order.id nv := by
  simp [Book.replaceOrder, Book.matchIfTrading, h, Book.restUnlessFilled, ha, Book.enqueue]
  cases e.key.side <;> rfl

/-- Non-vacuity and the concrete reading: three asks at one price; reducing the first keeps it
first, "modifying" the first to the same volume sends it to the back, re-pricing across the
spread trades at once. -/
example :
    let b0 := (Book.new 0 1 true).run [.cap .ask 5 1 (some 10), .time 1, .cap .ask 5 2 (some 10), .time 2,
      .cap .ask 5 3 (some 10), .time 3, .cap .bid 4 4 (some 8), .time 4]
    let drain : List Op := [.time 9, .cap .bid 6 9 none]
    ((b0.run ([.modify 0 none (some 3)] ++ drain)).trades.map (·.passive)) = [0, 1] ∧
    ((b0.run ([.modify 0 none (some 5)] ++ drain)).trades.map (·.passive)) = [1, 2] ∧
    ((b0.run [.modify 0 (some 8) none]).trades.map (fun t => (t.active, t.passive, t.price, t.vol))) = [(0, 3, 8, 4)] := by
  decide

/-- In every reachable state (invariant holds) a modify request with an in-range price that does not
fault acts on the abstract state — order table, two FIFO id lists, trade log — exactly as the
reference engine's `modify` does. -/
theorem modify_is_reference_modify {b : Book} (h : Inv b) (id : Nat) (np nv : Option Nat)
    (hp : ∀ p, np = some p → p ≤ MAXP) (hnf : (b.modifyOrder id np nv).faulted = false) :
    abs (b.modifyOrder id np nv) = Ref.modify (abs b) id np nv :=
  modify_refines h id np nv hp hnf

/-- Reference engine, pure volume reduction: both queues, the trade log and every other order are
untouched; the order's record changes in its volume only. -/
theorem ref_reduce_keeps_place (s : Ref.RState) (id : Nat) (o : Order) (v : Nat)
    (ho : s.orders[id]? = some o) (ha : o.status = .active) (hv : v < o.vol) :
    Ref.modify s id none (some v) = { s with orders := s.orders.set id { o with vol := v } } := by
  simp [Ref.modify, ho, ha, hv, Book.offGrid]

/-- Reference engine, any other modification of an Active order (a price is given, or the volume
is not smaller): the order is erased from its queue and handed, with the new price and volume and
nothing else changed, to `enter` — the very function that places a newly arrived limit order. -/
theorem ref_replace_is_arrival (s : Ref.RState) (id : Nat) (o : Order) (p v : Option Nat)
    (ho : s.orders[id]? = some o) (ha : o.status = .active) (hg : Book.offGrid s.tick p = false)
    (hre : p.isSome ∨ ∃ w, v = some w ∧ o.vol ≤ w) :
    Ref.modify s id p v =
      { (Ref.enter (s.setQueue o.side ((s.queue o.side).erase id))
            { o with vol := v.getD o.vol, price := p.getD o.price } false).1 with
        orders := (Ref.enter (s.setQueue o.side ((s.queue o.side).erase id))
            { o with vol := v.getD o.vol, price := p.getD o.price } false).1.orders.set id
          (Ref.enter (s.setQueue o.side ((s.queue o.side).erase id))
            { o with vol := v.getD o.vol, price := p.getD o.price } false).2 } := by
  refine Ref.modify_reenter ho ha hg (fun h => ?_) ?_
  · rcases hre with hp | ⟨w, hw, _⟩
    · simp [h.1] at hp
    · simp [hw] at h
  · rcases hre with hp | ⟨w, rfl, hle⟩
    · cases p <;> simp at hp ⊢
    · simp [Nat.not_lt.mpr hle]

/-- A newly placed limit order goes through the same `enter` (so "as if newly arrived" is literal). -/
theorem ref_place_limit_is_enter (s : Ref.RState) (id : Nat) (o : Order)
    (ho : s.orders[id]? = some o) (hn : o.status = .new) (hm : Book.isMarket o = false) :
    Ref.place s id =
      { (Ref.enter s { o with status := .active, arr := s.t } false).1 with
        orders := (Ref.enter s { o with status := .active, arr := s.t } false).1.orders.set id
          (Ref.enter s { o with status := .active, arr := s.t } false).2 } := by
  simp [Ref.place, ho, hn, hm]

/-- A modified order keeps its id, side, trader, original arrival time and starting volume
through `enter`, whatever happens to it there. -/
theorem ref_enter_keeps_identity (s : Ref.RState) (agg : Order) (market : Bool) :
    (Ref.enter s agg market).2.id = agg.id ∧ (Ref.enter s agg market).2.side = agg.side ∧
    (Ref.enter s agg market).2.trader = agg.trader ∧ (Ref.enter s agg market).2.arr = agg.arr ∧
    (Ref.enter s agg market).2.svol = agg.svol ∧ (Ref.enter s agg market).2.price = agg.price := by
  -- `enter` returns the match phase's record, possibly with another status and end time
  obtain ⟨st, e, h⟩ := Ref.enter_snd_shape s agg market
  rw [h]; exact (Ref.matchPhase_rel (Ref.filled_fillRel s.t) agg).2.1.1

/-- `modify_is_reference_modify` at every state reached by a valid history, for every modify request
on a known id whose outcome keeps the totals below `2^32` (the property's validity conditions). -/
theorem modify_is_reference_modify_valid (t0 tick : Nat) (trading : Bool) (ops : List Op)
    (h : ValidHistory t0 tick trading ops) (id : Nat) (np nv : Option Nat)
    (hp : ∀ p, np = some p → p ≤ MAXP) (hvv : ∀ v, nv = some v → 0 < v)
    (hid : id < ((Book.new t0 tick trading).run ops).orders.length)
    (hb : (((Book.new t0 tick trading).run ops).modifyOrder id np nv).Bounded) :
    abs (((Book.new t0 tick trading).run ops).modifyOrder id np nv) =
      Ref.modify (abs ((Book.new t0 tick trading).run ops)) id np nv :=
  modify_is_reference_modify h.inv id np nv hp (h.inv.modify_nofault id np nv hid hvv hb)

end Bourse.Props.C06

/-
C05 — equal timestamps never lose or reorder queued orders.

The queue key is `(price key, stamp)` where `stamp` comes from a per-book counter, not from the
clock; the clock takes no part in ordering. (With a key `(price key, time)` a second insertion with
the same pair overwrites the first: finding F-C05-1 in known_findings.json; the witness below is the
input of that finding.)
-/
import Bourse.Lemmas.NoOverflow
import Bourse.Lemmas.StampShift

namespace Bourse.Props.C05
open Bourse

/-- Queuing takes the current stamp and advances the counter: the key an order is queued under
does not depend on the clock at all. -/
theorem enqueue_key_clock_free (sd : Side) (b : Book) (e : Entry) (pk t : Nat) :
    (Book.enqueue sd b e pk).2.key = ⟨sd, pk, b.stamp⟩ ∧
    (Book.enqueue sd b e pk).1.stamp = b.stamp + 1 ∧
    (Book.enqueue sd (b.setTime t) e pk).2.key = (Book.enqueue sd b e pk).2.key ∧
    (Book.enqueue sd (b.setTime t) e pk).1.side sd = (Book.enqueue sd b e pk).1.side sd := by
  simp [Book.enqueue, Book.setTime]
  cases sd <;> rfl

/-- Changing the clock never touches the stamp counter or either queue. -/
theorem setTime_keeps_queues (b : Book) (t : Nat) :
    (b.setTime t).stamp = b.stamp ∧ (b.setTime t).bid = b.bid ∧ (b.setTime t).ask = b.ask := ⟨rfl, rfl, rfl⟩

/-- Two successive insertions on one side get different keys, whatever the clock does in
between (also when it does nothing): the second stamp is strictly larger. -/
theorem successive_keys_distinct (sd : Side) (b : Book) (e1 e2 : Entry) (pk1 pk2 : Nat) :
    let r1 := Book.enqueue sd b e1 pk1
    let r2 := Book.enqueue sd r1.1 e2 pk2
    r1.2.key.st < r2.2.key.st := by
  simp [Book.enqueue]

/-- The stamp counter never decreases, through any operation (so a stamp, once issued, is
never issued again). -/
theorem stamp_monotone (b : Book) (op : Op) (h : op ≠ .reload) : b.stamp ≤ (b.step op).1.stamp := by
  by_cases ha : op.Admin
  · exact Nat.le_of_eq (Book.admin_frame b ha).stamp.symm
  · exact (Book.step_opFrame b op ha).stamp

/-- A snapshot reload never lowers the counter: it stays above every stamp stored in the table (the
invariant has them below it), so ties keep distinct keys after a reload as well. -/
theorem reload_stamp_above (b : Book) : b.stamp ≤ b.reload.stamp := Book.reload_stamp b

/-- **Ties never lose an order**: the invariant theorem has no clock hypothesis at all — after ANY
valid fault-free history (clock advanced or not between insertions, arbitrary `time` operations,
reloads in between) every Active order is queued exactly once under a key of its own, the queue keys
are pairwise distinct (strictly sorted), and the published aggregates count every one of them. -/
theorem ties_lose_nothing (t0 tick : Nat) (trading : Bool) (ht : 0 < tick) (ops : List Op)
    (hv : ∀ op ∈ ops, ValidOp op) (hnf : NoFault (Book.new t0 tick trading) ops) :
    let b := (Book.new t0 tick trading).run ops
    (∀ (id : Nat) (e : Entry), b.orders[id]? = some e → e.order.status = .active →
        ((e.key.pk, e.key.st), id) ∈ (b.side e.order.side).orders) ∧
    SMap.Sorted b.bid.orders ∧ SMap.Sorted b.ask.orders ∧
    (∀ sd k k' id, (k, id) ∈ (b.side sd).orders → (k', id) ∈ (b.side sd).orders → k = k') := by
  intro b
  have h := inv_reachable t0 tick trading ht ops hv hnf
  exact ⟨h.act, h.bid.so, h.ask.so, fun sd k k' id h1 h2 => (h.side sd).unique h1 h2⟩

/-- The input of finding F-C05-1: two asks queued at one price with ONE timestamp and
a market buy for 12 — both trade, the earlier-queued first; nothing is lost or invisible; and
cancelling the later one leaves the earlier one visible and first to trade. -/
theorem tie_witness_executes_in_queue_order :
    let b := (Book.new 0 1 true).run [.cap .ask 5 1 (some 10), .cap .ask 7 2 (some 10)]
    let b' := b.run [.cap .bid 12 3 none]
    b.bidAsk = (0, 10) ∧ b.askVol = 12 ∧ b.askBestVolAndOrders = (12, 2) ∧
    b'.trades = [{ t := 0, side := .ask, price := 10, vol := 5, active := 2, passive := 0 },
                 { t := 0, side := .ask, price := 10, vol := 7, active := 2, passive := 1 }] ∧
    (b'.orders.map (·.order.status)) = [.filled, .filled, .filled] ∧
    ((b.run [.cancel 1]).askBestVolAndOrders = (5, 1)) ∧
    ((b.run [.cancel 1, .cap .bid 12 3 none]).trades.map (·.passive)) = [0] := by
  decide

/-- Ties created by re-queuing modifications: a tie-break by order id would be wrong here — order 0
re-queued after order 1 (same clock value) must execute after it. -/
theorem tie_requeue_goes_behind :
    let b := (Book.new 0 1 true).run [.cap .ask 5 1 (some 10), .cap .ask 5 2 (some 10),
      .modify 0 none (some 5), .cap .bid 7 3 none]
    (b.trades.map (fun t => (t.passive, t.vol))) = [(1, 5), (0, 2)] := by
  decide

/-- **Execution order under ties is queueing order.** For every valid fault-free history — whatever
the clock did — the ids in each side's keyed queue, read in key order, are exactly the reference
engine's FIFO list for that side. The reference engine never looks at a clock value to order its
list (`Ref.enqueue` walks the list comparing prices only), so equal timestamps cannot reorder,
merge or drop anything. -/
theorem queues_are_reference_fifo (t0 tick : Nat) (trading : Bool) (ht : 0 < tick) (ops : List Op)
    (hv : ∀ op ∈ ops, ValidOp op) (hnf : NoFault (Book.new t0 tick trading) ops) (sd : Side) :
    absq (((Book.new t0 tick trading).run ops).side sd) = (Ref.run (Ref.init t0 tick trading) ops).queue sd := by
  rw [← abs_queue, abs_run_new t0 tick trading ht ops hv hnf]

/-- `queues_are_reference_fifo` and `ties_lose_nothing` for valid histories as the property states
them — there is no clock hypothesis in `ValidHistory` either. -/
theorem queues_are_reference_fifo_valid (t0 tick : Nat) (trading : Bool) (ops : List Op)
    (h : ValidHistory t0 tick trading ops) (sd : Side) :
    absq (((Book.new t0 tick trading).run ops).side sd) = (Ref.run (Ref.init t0 tick trading) ops).queue sd :=
  queues_are_reference_fifo t0 tick trading h.tick_pos ops h.ops_valid h.noFault sd

theorem ties_lose_nothing_valid (t0 tick : Nat) (trading : Bool) (ops : List Op)
    (h : ValidHistory t0 tick trading ops) :
    let b := (Book.new t0 tick trading).run ops
    (∀ (id : Nat) (e : Entry), b.orders[id]? = some e → e.order.status = .active →
        ((e.key.pk, e.key.st), id) ∈ (b.side e.order.side).orders) ∧
    SMap.Sorted b.bid.orders ∧ SMap.Sorted b.ask.orders ∧
    (∀ sd k k' id, (k, id) ∈ (b.side sd).orders → (k', id) ∈ (b.side sd).orders → k = k') :=
  ties_lose_nothing t0 tick trading h.tick_pos ops h.ops_valid h.noFault

/-! The size of the stamps does not matter, only their order. The stamp counter is a `u64` that only
grows; a state whose counter is near `2^32` — where an implementation that packs, truncates or narrows
stamps would go wrong — takes billions of queue insertions to reach. The correspondence check reaches
it with the harness operation `jump k`: the book goes through its snapshot with `k` added to the
counter and to every stored stamp. The theorems below say what that operation is in the model and
that it is invisible. -/

/-- In every reachable state the shifted book again satisfies the book invariant, is abstracted to
the same reference-engine state, and is what loading the shifted snapshot (`jump k`) produces. -/
theorem stamp_jump_is_a_valid_state (t0 tick : Nat) (trading : Bool) (ht : 0 < tick) (ops : List Op)
    (hv : ∀ op ∈ ops, ValidOp op) (hnf : NoFault (Book.new t0 tick trading) ops) (k : Nat) :
    let b := (Book.new t0 tick trading).run ops
    Inv (b.shift k) ∧ abs (b.shift k) = abs b ∧ b.reloadShift k = b.shift k := by
  have hi := inv_reachable t0 tick trading ht ops hv hnf
  exact ⟨hi.shift k, abs_shift _ k, reloadShift_eq hi k⟩

/-- **A stamp jump is invisible, now and under every continuation**: after any valid history, moving
every stamp up by any `k` changes no observable, and every valid fault-free continuation produces
the same results and the same complete observations (orders, trades, every view) from the shifted
book as from the original. So whatever an implementation does differently after a `jump` is a
failure of price-time priority, not an artefact of the jump. -/
theorem stamp_offset_is_invisible (t0 tick : Nat) (trading : Bool) (ht : 0 < tick) (ops : List Op)
    (hv : ∀ op ∈ ops, ValidOp op) (hnf : NoFault (Book.new t0 tick trading) ops) (k n : Nat)
    (hn : ∀ i, i < n → i * tick < P32) (cont : List Op) (hvc : ∀ op ∈ cont, ValidOp op)
    (hc : NoFault ((Book.new t0 tick trading).run ops) cont)
    (hc' : NoFault (((Book.new t0 tick trading).run ops).shift k) cont) :
    let b := (Book.new t0 tick trading).run ops
    (b.shift k).observe n = b.observe n ∧ Book.trace n (b.shift k) cont = Book.trace n b cont := by
  have hi := inv_reachable t0 tick trading ht ops hv hnf
  have htk : ((Book.new t0 tick trading).run ops).tick = tick := by
    rw [run_tick]; rfl
  exact shift_silent hi k n (by rw [htk]; exact hn) cont hvc hc hc'

/-- Non-vacuity: two asks tied at one price, a jump of `2^32 − 1` (the next stamp is `2^32`), a third
ask at that price and a sweeping market buy: the three execute in queueing order, exactly as without
the jump; the stored stamps straddle `2^32`. -/
example :
    let b0 := (Book.new 0 1 true).run [.cap .ask 5 1 (some 10), .cap .ask 5 2 (some 10)]
    let b1 := (b0.reloadShift 4294967295).run [.cap .ask 5 3 (some 10), .cap .bid 15 4 none]
    let b2 := b0.run [.cap .ask 5 3 (some 10), .cap .bid 15 4 none]
    b1.trades.map (·.passive) = [0, 1, 2] ∧ b1.trades = b2.trades ∧
    b1.orders.map (·.order) = b2.orders.map (·.order) ∧
    b1.orders.map (·.key.st) = [4294967295, 4294967296, 4294967297, 0] := by decide +kernel

end Bourse.Props.C05

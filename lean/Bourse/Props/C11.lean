/-
C11 — recorded market-data histories are complete, aligned and faithful.
The property theorems and the definitions they are stated with.
-/
import Bourse.Lemmas.SimHistory
import Bourse.Props.C08

namespace Bourse.Props.C11
open Bourse

/-- All series of a record structure have `k` entries; there are `n` level series per kind. -/
structure WF (n k : Nat) (r : Records) : Prop where
  bp : r.bidPrices.length = k
  ap : r.askPrices.length = k
  bv : r.bidVols.length = k
  av : r.askVols.length = k
  nbv : r.bidVolAt.length = n
  nbo : r.bidOrdAt.length = n
  nav : r.askVolAt.length = n
  nao : r.askOrdAt.length = n
  lbv : ∀ s ∈ r.bidVolAt, s.length = k
  lbo : ∀ s ∈ r.bidOrdAt, s.length = k
  lav : ∀ s ∈ r.askVolAt, s.length = k
  lao : ∀ s ∈ r.askOrdAt, s.length = k

theorem pushAt_length (series : List (List Nat)) (levels : List (Nat × Nat)) (f : Nat × Nat → Nat) :
    (Records.pushAt series levels f).length = series.length := by
  simp [Records.pushAt]

theorem pushAt_get (series : List (List Nat)) (levels : List (Nat × Nat)) (f : Nat × Nat → Nat)
    (i : Nat) (h : i < series.length) :
    (Records.pushAt series levels f)[i]? = some (series[i] ++ [f (levels[i]?.getD (0, 0))]) := by
  simp [Records.pushAt, h]

theorem pushAt_mem_length (series : List (List Nat)) (levels : List (Nat × Nat)) (f : Nat × Nat → Nat)
    (k : Nat) (h : ∀ s ∈ series, s.length = k) : ∀ s ∈ Records.pushAt series levels f, s.length = k + 1 := by
  intro s hs
  obtain ⟨⟨s0, i⟩, hm, rfl⟩ := List.mem_map.mp hs
  rw [List.length_append, h s0 (List.fst_mem_of_mem_zipIdx hm), List.length_singleton]

/-- **Complete and aligned.** Appending one record adds exactly one entry to every series. -/
theorem append_wf (n k : Nat) (r : Records) (l2 : Level2) (h : WF n k r) : WF n (k + 1) (r.append l2) := by
  constructor
  · simp [Records.append, h.bp]
  · simp [Records.append, h.ap]
  · simp [Records.append, h.bv]
  · simp [Records.append, h.av]
  · simp [Records.append, pushAt_length, h.nbv]
  · simp [Records.append, pushAt_length, h.nbo]
  · simp [Records.append, pushAt_length, h.nav]
  · simp [Records.append, pushAt_length, h.nao]
  · exact pushAt_mem_length _ _ _ _ h.lbv
  · exact pushAt_mem_length _ _ _ _ h.lbo
  · exact pushAt_mem_length _ _ _ _ h.lav
  · exact pushAt_mem_length _ _ _ _ h.lao

/-- **Faithful.** The entry appended to each series is the corresponding field of the level-2
record: bid series hold bid values, ask series ask values, level `i` holds level `i`; all older
entries are untouched. -/
theorem append_entries (r : Records) (l2 : Level2) :
    (r.append l2).bidPrices = r.bidPrices ++ [l2.bidPrice] ∧
    (r.append l2).askPrices = r.askPrices ++ [l2.askPrice] ∧
    (r.append l2).bidVols = r.bidVols ++ [l2.bidVol] ∧
    (r.append l2).askVols = r.askVols ++ [l2.askVol] ∧
    (∀ i (h : i < r.bidVolAt.length), (r.append l2).bidVolAt[i]? = some (r.bidVolAt[i] ++ [(l2.bidLevels[i]?.getD (0, 0)).1])) ∧
    (∀ i (h : i < r.bidOrdAt.length), (r.append l2).bidOrdAt[i]? = some (r.bidOrdAt[i] ++ [(l2.bidLevels[i]?.getD (0, 0)).2])) ∧
    (∀ i (h : i < r.askVolAt.length), (r.append l2).askVolAt[i]? = some (r.askVolAt[i] ++ [(l2.askLevels[i]?.getD (0, 0)).1])) ∧
    (∀ i (h : i < r.askOrdAt.length), (r.append l2).askOrdAt[i]? = some (r.askOrdAt[i] ++ [(l2.askLevels[i]?.getD (0, 0)).2])) := by
  exact ⟨rfl, rfl, rfl, rfl, pushAt_get _ _ _, pushAt_get _ _ _, pushAt_get _ _ _, pushAt_get _ _ _⟩

/-- One step appends to asset `a`'s records exactly the level-2 data of its live book as of the end
of the step, the same data that becomes the cached snapshot. -/
theorem step_records (e : MEnv) (batch : List Instr) (a : Nat) (r : Records) (l : Level2)
    (hr : e.records[a]? = some r) (hl : ((e.stepWith batch).market.level2 e.nLevels)[a]? = some l) :
    (e.stepWith batch).records[a]? = some (r.append l) ∧ (e.stepWith batch).l2[a]? = some l := by
  simp only [MEnv.stepWith] at hl ⊢
  refine ⟨?_, hl⟩
  have hz := (List.getElem?_zip_eq_some (z := (r, l))).mpr ⟨hr, hl⟩
  simp only [List.getElem?_map, hz, Option.map_some]

/-- The invariant over whole runs: after `k` steps every record structure is well-formed with `k`
entries per series. -/
def AllWF (k : Nat) (e : MEnv) : Prop := ∀ r ∈ e.records, WF e.nLevels k r

theorem init_allwf (t0 : Nat) (ticks : List Nat) (step : Nat) (trading : Bool) (n : Nat) :
    AllWF 0 (MEnv.new t0 ticks step trading n) := by
  intro r hr
  simp [MEnv.new] at hr
  obtain ⟨_, _, rfl⟩ := hr
  show WF n 0 (Records.new n)
  constructor <;> simp [Records.new, List.mem_replicate]

/-- **After k steps every series has exactly k entries** (one step adds one entry everywhere). -/
theorem step_allwf (e : MEnv) (batch : List Instr) (k : Nat) (h : AllWF k e) : AllWF (k + 1) (e.stepWith batch) := by
  intro r hr
  simp only [MEnv.stepWith] at hr
  obtain ⟨⟨r0, l⟩, hz, rfl⟩ := List.mem_map.mp hr
  have hr0 : r0 ∈ e.records := (List.of_mem_zip hz).1
  exact append_wf _ _ _ _ (h r0 hr0)

theorem nonstep_records (e : MEnv) (g : Xoro) (op : MEnv.EOp) (h : op ≠ .step) :
    (e.apply g op).1.1.records = e.records := by
  cases op with
  | submit a sd vol tr p =>
    simp only [MEnv.apply, MEnv.placeOrder]
    split <;> rfl
  | qcancel a id | qmodify a id p v => rfl
  | step => exact absurd rfl h
  | trading on => cases on <;> rfl

/-- Non-vacuity: an asymmetric two-level book; after two steps every series has two entries and
bid series hold bid values. -/
example :
    let e0 := MEnv.new 0 [1] 10 true 2
    let e1 := ((((e0.placeOrder 0 .bid 5 1 (some 10)).1.placeOrder 0 .bid 2 1 (some 9)).1.placeOrder 0 .ask 7 2 (some 12)).1.step (Xoro.seed 3)).1
    let e2 := ((e1.placeOrder 0 .bid 1 3 (some 12)).1.step (Xoro.seed 4)).1
    e2.records.map (·.bidPrices) = [[10, 10]] ∧ e2.records.map (·.askPrices) = [[12, 12]] ∧
    e2.records.map (·.bidVols) = [[7, 7]] ∧ e2.records.map (·.askVols) = [[7, 6]] ∧
    e2.records.map (·.bidVolAt) = [[[5, 5], [2, 2]]] ∧ e2.records.map (·.askVolAt) = [[[7, 6], [0, 0]]] ∧
    e2.records.map (·.bidOrdAt) = [[[1, 1], [1, 1]]] ∧ e2.tradeVols = [[0, 1]] := by decide

/-! ### Whole histories: entry `j` is the live book at the end of step `j`

The one-step statements above, lifted over ANY sequence of environment operations (submissions,
queued cancellations / modifications, trading switches, steps, any generator): the recorded series
of an asset are its starting series followed by exactly one entry per step, and the entry of step
`j` is the value the live book published at the end of step `j`. -/

/-- The level-2 data of every asset at the end of each step of a history, in step order. -/
def stepSnaps : MEnv × Xoro → List MEnv.EOp → List (List Level2)
  | _, [] => []
  | s, op :: rest =>
    (match op with
     | .step => [(s.1.apply s.2 .step).1.1.market.level2 s.1.nLevels]
     | _ => []) ++ stepSnaps (s.1.apply s.2 op).1 rest

/-- Append the snapshots of asset `a` one after the other. -/
def appendSnaps (a : Nat) (r : Records) (snaps : List (List Level2)) : Records :=
  snaps.foldl (fun r snap => r.append (snap[a]?.getD default)) r

def Shape (e : MEnv) : Prop := e.records.length = e.market.books.length

/-- A step gives every record structure the level-2 data of its asset's book: there is one snapshot
per book, and by `Shape` one book per record structure. -/
theorem stepWith_records (e : MEnv) (batch : List Instr) (h : Shape e) :
    (e.stepWith batch).records.length = e.records.length ∧
    ∀ (a : Nat) (r : Records), e.records[a]? = some r → (e.stepWith batch).records[a]? =
      some (r.append (((e.stepWith batch).market.level2 e.nLevels)[a]?.getD default)) := by
  have hlen : ((e.stepWith batch).market.level2 e.nLevels).length = e.records.length := by
    rw [Market.level2, List.length_map, C08.step_is_replay, C14.run_books_length, h]
  refine ⟨?_, fun a r hr => ?_⟩
  · show ((e.records.zip ((e.stepWith batch).market.level2 e.nLevels)).map _).length = _
    rw [List.length_map, List.length_zip, hlen, Nat.min_self]
  · have hlt : a < e.records.length := (List.getElem?_eq_some_iff.mp hr).1
    have hl := List.getElem?_eq_getElem (hlen ▸ hlt)
    rw [(step_records e batch a r _ hr hl).1, hl]
    rfl

theorem Shape.apply (e : MEnv) (g : Xoro) (op : MEnv.EOp) (h : Shape e) :
    Shape (e.apply g op).1.1 := by
  unfold Shape at *
  rw [C08.apply_market, C14.run_books_length, ← h]
  by_cases hop : op = .step
  · subst hop
    simp only [MEnv.apply, MEnv.step]
    split
    · exact (stepWith_records e _ h).1
    · rfl
  · rw [nonstep_records e g op hop]

theorem records_apply (e : MEnv) (g : Xoro) (op : MEnv.EOp) (h : Shape e) (a : Nat) (r : Records)
    (hr : e.records[a]? = some r) (hfault : Xoro.shuffle e.queue g ≠ none) :
    (e.apply g op).1.1.records[a]? = some (appendSnaps a r (stepSnaps (e, g) [op])) := by
  by_cases hop : op = .step
  · subst hop
    simp only [stepSnaps, List.append_nil, appendSnaps, List.foldl_cons, List.foldl_nil, MEnv.apply, MEnv.step]
    split
    · exact (stepWith_records e _ h).2 a r hr
    · rename_i hs; exact absurd hs hfault
  · have : stepSnaps (e, g) [op] = [] := by
      cases op <;> first | rfl | exact absurd rfl hop
    rw [this, nonstep_records e g op hop]
    exact hr

/-- The generator's rejection loop never runs out of fuel along the history (it fails with
probability below `2^-256` per draw; a failure is a model fault). -/
def ShuffleOk : MEnv × Xoro → List MEnv.EOp → Prop
  | _, [] => True
  | s, op :: rest => Xoro.shuffle s.1.queue s.2 ≠ none ∧ ShuffleOk (s.1.apply s.2 op).1 rest

theorem appendSnaps_append (a : Nat) (r : Records) (x y : List (List Level2)) :
    appendSnaps a r (x ++ y) = appendSnaps a (appendSnaps a r x) y := by
  simp [appendSnaps, List.foldl_append]

theorem stepSnaps_cons (s : MEnv × Xoro) (op : MEnv.EOp) (rest : List MEnv.EOp) :
    stepSnaps s (op :: rest) = stepSnaps s [op] ++ stepSnaps (s.1.apply s.2 op).1 rest := by
  simp [stepSnaps]

/-- **After any history, the records of every asset are its starting records followed by one
snapshot per step, in step order** — the snapshot being the level-2 data of the live book at the end
of that step. -/
theorem records_are_step_snapshots (s : MEnv × Xoro) (ops : List MEnv.EOp) (h : Shape s.1) (hok : ShuffleOk s ops)
    (a : Nat) (r : Records) (hr : s.1.records[a]? = some r) :
    (MEnv.runOps s ops).1.records[a]? = some (appendSnaps a r (stepSnaps s ops)) := by
  induction ops generalizing s r with
  | nil => simpa [MEnv.runOps, stepSnaps, appendSnaps] using hr
  | cons op rest ih =>
    rw [stepSnaps_cons, appendSnaps_append]
    simp only [MEnv.runOps]
    have h1 := records_apply s.1 s.2 op h a r hr hok.1
    exact ih (s.1.apply s.2 op).1 (Shape.apply s.1 s.2 op h) hok.2 _ h1

/-- Reading the scalar series: the touch-price and side-volume series after the history are the
starting series followed, step by step, by the live book's bid price / ask price / bid volume / ask
volume at the end of each step — bid series from bid values, ask series from ask values, entry `j`
from step `j`. -/
theorem appendSnaps_series (a : Nat) (r : Records) (snaps : List (List Level2)) :
    (appendSnaps a r snaps).bidPrices = r.bidPrices ++ snaps.map (fun sn => (sn[a]?.getD default).bidPrice) ∧
    (appendSnaps a r snaps).askPrices = r.askPrices ++ snaps.map (fun sn => (sn[a]?.getD default).askPrice) ∧
    (appendSnaps a r snaps).bidVols = r.bidVols ++ snaps.map (fun sn => (sn[a]?.getD default).bidVol) ∧
    (appendSnaps a r snaps).askVols = r.askVols ++ snaps.map (fun sn => (sn[a]?.getD default).askVol) := by
  induction snaps generalizing r with
  | nil => exact ⟨(List.append_nil _).symm, (List.append_nil _).symm, (List.append_nil _).symm, (List.append_nil _).symm⟩
  | cons sn rest ih =>
    -- `appendSnaps a r (sn :: rest)` unfolds to `appendSnaps a (r.append _) rest`, and `r.append l` puts `l`'s value last
    obtain ⟨h1, h2, h3, h4⟩ := ih (r.append (sn[a]?.getD default))
    exact ⟨h1.trans (List.append_assoc ..), h2.trans (List.append_assoc ..), h3.trans (List.append_assoc ..),
      h4.trans (List.append_assoc ..)⟩

theorem stepSnaps_length (s : MEnv × Xoro) (ops : List MEnv.EOp) :
    (stepSnaps s ops).length = (ops.filter (· == .step)).length := by
  induction ops generalizing s with
  | nil => rfl
  | cons op rest ih =>
    rw [stepSnaps_cons, List.length_append, ih, List.filter_cons]
    -- a step contributes one snapshot and passes the filter, any other operation does neither
    cases op
    case step => exact Nat.add_comm ..
    all_goals exact Nat.zero_add _

/-- Non-vacuity: the two-step history of the example above as environment operations. -/
example :
    let s0 := (MEnv.new 0 [1] 10 true 2, Xoro.seed 3)
    let ops : List MEnv.EOp := [.submit 0 .bid 5 1 (some 10), .submit 0 .bid 2 1 (some 9), .submit 0 .ask 7 2 (some 12), .step,
                                .submit 0 .bid 1 3 (some 12), .step]
    ((MEnv.runOps s0 ops).1.records.map (·.bidVols)) = [[7, 7]] ∧ (stepSnaps s0 ops).length = 2 ∧
    ((stepSnaps s0 ops).map fun sn => sn.map (·.askVol)) = [[7], [6]] := by decide

theorem subs_keeps {e e' : MEnv} (h : Subs e e') :
    e'.fault = e.fault ∧ e'.records = e.records ∧ e'.nLevels = e.nLevels :=
  ⟨h.unseen.fault, h.unseen.records, h.unseen.nLevels⟩

theorem step_unfaulted {e : MEnv} {g : Xoro} (h : (e.step g).1.fault = false) :
    e.fault = false ∧ ∃ batch, (e.step g).1 = e.stepWith batch := by
  unfold MEnv.step at h ⊢
  split at h
  · exact ⟨(Bool.or_eq_false_iff.1 h).1, _, rfl⟩
  · cases h

/-- A fault (a failed shuffle, a clock overflow) is never cleared by a simulation. -/
theorem simLoopG_fault_sticky (th : F → F) (n : Nat) (as : SimAgents) (e : MEnv) (g : Xoro) (as' : SimAgents) (e' : MEnv)
    (g' : Xoro) (h : simLoopG th n as e g = some (as', e', g')) (hf : e.fault = true) : e'.fault = true :=
  simLoopG_induction (I := fun _ e => e.fault = true) (k := 0) (fun _ _ _ hs hf => (subs_keeps hs).1.trans hf)
    (fun _ _ _ hf => eq_true_of_ne_false fun hn => Bool.noConfusion ((step_unfaulted hn).1.symm.trans hf)) h hf

/-- **After `k` steps of ANY simulation of the built-in agents every recorded series has exactly `k`
more entries**: whatever agents are composed (random, noise, momentum, nested derived sets), for every
sampler, `tanh`, generator state and step count — if the run ends without a fault, every series of
every asset that had `k` entries has `k + n` after `n` steps. (Agents only submit: they never touch the
records; each step appends exactly one entry to every series.) -/
theorem simulation_records_have_one_entry_per_step (th : F → F) (n : Nat) (as : SimAgents) (e : MEnv) (g : Xoro)
    (as' : SimAgents) (e' : MEnv) (g' : Xoro) (h : simLoopG th n as e g = some (as', e', g'))
    (hnf : e'.fault = false) (k : Nat) (hwf : AllWF k e) : AllWF (k + n) e' := by
  -- the invariant: an unfaulted environment that has taken `j` steps holds `j` entries per series
  refine simLoopG_induction (I := fun j e => e.fault = false → AllWF j e) ?_ ?_ h (fun _ => hwf) hnf
  · intro j e e' hs hI hf r hr
    obtain ⟨hfault, hrec, hlev⟩ := subs_keeps hs
    rw [hlev]
    exact hI (hfault ▸ hf) r (hrec ▸ hr)
  · intro j e g hI hf
    obtain ⟨hf0, batch, hb⟩ := step_unfaulted hf
    rw [hb]
    exact step_allwf e batch j (hI hf0)

end Bourse.Props.C11


/-
C04 — one-way lifecycle; redundant requests are no-ops; a clock change changes the clock only.
Then arrival and end times (set once, at placement and at the moment an order becomes terminal;
absent on open orders), and that placement and cancellation are final (a placed order is never New
again, a cancelled one never live again).
-/
import Bourse.Lemmas.Lifecycle
import Bourse.Lemmas.NoOverflow

namespace Bourse.Props.C04
open Bourse

/-- Placing an order that is not `New` a second time changes nothing — full model-state
equality, which is stronger than equality of every observable. -/
theorem place_nonNew_noop (b : Book) (id : Nat) (e : Entry)
    (h : b.orders[id]? = some e) (hs : e.order.status ≠ .new) : b.placeOrder id = b := by
  simp [Book.placeOrder, h, hs]

/-- Cancelling an order that is not `Active` changes nothing. -/
theorem cancel_nonActive_noop (b : Book) (id : Nat) (e : Entry)
    (h : b.orders[id]? = some e) (hs : e.order.status ≠ .active) : b.cancelOrder id = b := by
  simp [Book.cancelOrder, h, hs]

/-- Modifying an order that is not `Active` changes nothing, whatever is requested. -/
theorem modify_nonActive_noop (b : Book) (id : Nat) (e : Entry) (p v : Option Nat)
    (h : b.orders[id]? = some e) (hs : e.order.status ≠ .active) : b.modifyOrder id p v = b := by
  by_cases hg : Book.offGrid b.tick p = true <;> simp [Book.modifyOrder, h, hg, hs]

/-- The same three facts for requests arriving as events. -/
theorem event_redundant_noop (b : Book) (id : Nat) (e : Entry) (h : b.orders[id]? = some e) :
    (e.order.status ≠ .new → b.processEvent (.new id) = b) ∧
    (e.order.status ≠ .active → b.processEvent (.cancel id) = b) ∧
    (∀ p v, e.order.status ≠ .active → b.processEvent (.modify id p v) = b) :=
  ⟨fun hs => place_nonNew_noop b id e h hs, fun hs => cancel_nonActive_noop b id e h hs,
   fun p v hs => modify_nonActive_noop b id e p v h hs⟩

/-- Changing the clock changes the clock and nothing else. -/
theorem setTime_only_time (b : Book) (t : Nat) : b.setTime t = { b with t := t } := rfl

/-- Hence every observable other than the time is unchanged by a clock change. -/
theorem setTime_observe (b : Book) (t n : Nat) :
    (b.setTime t).observe n = { b.observe n with t := t } := rfl

/-- **One-way lifecycle, over every history.** Take any state reachable from a new book by valid
fault-free operations, and any valid fault-free continuation: every order that existed keeps its
index and its id, side, trader and starting volume; its status has only advanced along
New → Active → Filled/Cancelled (or straight from New to Filled/Cancelled/Rejected); and if it was
already Filled, Cancelled or Rejected its whole record is unchanged. -/
theorem lifecycle_one_way (t0 tick : Nat) (trading : Bool) (ht : 0 < tick) (ops cont : List Op)
    (hv : ∀ op ∈ ops, ValidOp op) (hnf : NoFault (Book.new t0 tick trading) ops)
    (hv' : ∀ op ∈ cont, ValidOp op) (hnf' : NoFault ((Book.new t0 tick trading).run ops) cont) :
    ∀ (i : Nat) (e : Entry), ((Book.new t0 tick trading).run ops).orders[i]? = some e →
      ∃ e', (((Book.new t0 tick trading).run ops).run cont).orders[i]? = some e' ∧
        Adv e.order.status e'.order.status = true ∧ e'.order.id = e.order.id ∧ e'.order.side = e.order.side ∧
        e'.order.trader = e.order.trader ∧ e'.order.svol = e.order.svol ∧
        (isTerminal e.order.status = true → e'.order = e.order) :=
  lifecycle_run (inv_reachable t0 tick trading ht ops hv hnf) cont hv' hnf'

/-- Ids are assigned densely in creation order: in every reachable state the order at index `i`
has id `i`. -/
theorem ids_dense (t0 tick : Nat) (trading : Bool) (ht : 0 < tick) (ops : List Op)
    (hv : ∀ op ∈ ops, ValidOp op) (hnf : NoFault (Book.new t0 tick trading) ops) :
    ∀ (i : Nat) (e : Entry), ((Book.new t0 tick trading).run ops).orders[i]? = some e → e.order.id = i :=
  (inv_reachable t0 tick trading ht ops hv hnf).ids

/-- The allowed moves, spelled out: nothing ever leaves a terminal status, Active never goes back
to New, and Rejected is reachable from New only. -/
theorem adv_table :
    (∀ s, Adv .filled s = true → s = .filled) ∧ (∀ s, Adv .cancelled s = true → s = .cancelled) ∧
    (∀ s, Adv .rejected s = true → s = .rejected) ∧ Adv .active .new = false ∧ Adv .active .rejected = false := by
  refine ⟨?_, ?_, ?_, rfl, rfl⟩ <;> intro s <;> cases s <;> simp [Adv]

/-- Non-vacuity: a concrete book with a Filled, a Cancelled and an Active order on which the
three redundant requests are exercised. -/
example :
    let b0 := Book.new 0 1 true
    let b1 := (b0.step (.cap .ask 5 1 (some 10))).1
    let b2 := (b1.step (.cap .bid 5 2 (some 10))).1     -- fills order 0
    let b3 := (b2.step (.cap .bid 3 2 (some 9))).1      -- order 2 rests
    let b4 := (b3.step (.cancel 2)).1                   -- order 2 cancelled
    b4.placeOrder 0 = b4 ∧ b4.cancelOrder 0 = b4 ∧ b4.cancelOrder 2 = b4 ∧
      b4.modifyOrder 2 (some 11) (some 7) = b4 := by decide

/-- **Arrival and end times, one operation.** In every reachable state (invariant), for every valid
operation that does not fault and every order that exists before it, with `t` the book time:
* once placed, the arrival time never changes (a re-entering modification keeps it);
* a New order is left exactly as it was, or has been placed now and its arrival time is `t`;
* the end time changes only at the moment the order becomes Filled, Cancelled or Rejected, and then
  it is `t`;
* a Filled, Cancelled or Rejected record never changes again. -/
theorem times_one_operation {b : Book} (h : Inv b) (op : Op) (hv : ValidOp op)
    (hnf : (b.step op).1.faulted = false) (id : Nat) (e : Entry) (he : b.orders[id]? = some e) :
    ∃ e', (b.step op).1.orders[id]? = some e' ∧
      (e.order.status ≠ .new → e'.order.arr = e.order.arr) ∧
      (e.order.status = .new → e'.order = e.order ∨ (e'.order.status ≠ .new ∧ e'.order.arr = b.t)) ∧
      (¬(isTerminal e'.order.status = true ∧ isTerminal e.order.status = false) → e'.order.endt = e.order.endt) ∧
      (isTerminal e'.order.status = true → isTerminal e.order.status = false → e'.order.endt = b.t) ∧
      (isTerminal e.order.status = true → e'.order = e.order) := by
  obtain ⟨e', he', hs⟩ := step_times h op hv hnf id e he
  exact ⟨e', he', hs.arrKept, hs.arrSet, hs.endKept, hs.endSet, hs.term⟩

/-- **Open orders carry no end time.** After every valid fault-free history from a new book, an
order that is New or Active still has the "no end time" value it was created with; so an end time is
present exactly on terminal orders, and by `times_one_operation` it is the time they became terminal. -/
theorem open_orders_have_no_end_time (t0 tick : Nat) (trading : Bool) (ht : 0 < tick) (ops : List Op)
    (hv : ∀ op ∈ ops, ValidOp op) (hnf : NoFault (Book.new t0 tick trading) ops) :
    ∀ (id : Nat) (e : Entry), ((Book.new t0 tick trading).run ops).orders[id]? = some e →
      isTerminal e.order.status = false → e.order.endt = MAXT := by
  intro id e he hnt
  exact openNoEnd_run (inv_new t0 tick trading ht) (openNoEnd_new t0 tick trading) ops hv hnf id e.order
    (abs_get_of he) hnt

/-- Non-vacuity: placement, a fill, a cancel and a rejection with the clock moving in between. -/
example :
    let b := (Book.new 0 1 true).run [.create .ask 5 1 (some 10), .time 3, .place 0, .time 5, .cap .bid 2 2 (some 10),
      .time 7, .cancel 0, .trading false, .time 9, .cap .bid 1 3 none]
    (b.orders.map fun e => (e.order.status, e.order.arr, e.order.endt)) =
      [(.cancelled, 3, 7), (.filled, 5, 5), (.rejected, 9, 9)] := by decide

/-- `lifecycle_one_way` for valid histories as the property states them: a valid history followed
by a valid, feasible continuation. -/
theorem lifecycle_one_way_valid (t0 tick : Nat) (trading : Bool) (ops cont : List Op)
    (h : ValidHistory t0 tick trading ops)
    (hv' : ∀ op ∈ cont, ValidOp op) (hf' : Feasible ((Book.new t0 tick trading).run ops) cont) :
    ∀ (i : Nat) (e : Entry), ((Book.new t0 tick trading).run ops).orders[i]? = some e →
      ∃ e', (((Book.new t0 tick trading).run ops).run cont).orders[i]? = some e' ∧
        Adv e.order.status e'.order.status = true ∧ e'.order.id = e.order.id ∧ e'.order.side = e.order.side ∧
        e'.order.trader = e.order.trader ∧ e'.order.svol = e.order.svol ∧
        (isTerminal e.order.status = true → e'.order = e.order) :=
  lifecycle_one_way t0 tick trading h.tick_pos ops cont h.ops_valid h.noFault hv'
    (noFault_of_feasible h.inv cont hv' hf')

theorem open_orders_have_no_end_time_valid (t0 tick : Nat) (trading : Bool) (ops : List Op)
    (h : ValidHistory t0 tick trading ops) :
    ∀ (id : Nat) (e : Entry), ((Book.new t0 tick trading).run ops).orders[id]? = some e →
      isTerminal e.order.status = false → e.order.endt = MAXT :=
  open_orders_have_no_end_time t0 tick trading h.tick_pos ops h.ops_valid h.noFault

/-- **Placing a New order leaves it non-New** (Active, Filled, Cancelled or Rejected), in every state
satisfying the invariant. -/
theorem placing_leaves_new {b : Book} (h : Inv b) (id : Nat) (e : Entry) (he : b.orders[id]? = some e)
    (hn : e.order.status = .new) (hnf : (b.step (.place id)).1.faulted = false) :
    ∃ e', (b.step (.place id)).1.orders[id]? = some e' ∧ e'.order.status ≠ .new := by
  obtain ⟨o', ho', hne⟩ := Ref.place_not_new (abs b) id e.order (abs_get_of he) hn
  obtain ⟨e', he', rfl⟩ := abs_step_get h (.place id) trivial hnf ho'
  exact ⟨e', he', hne⟩

/-- **A cancelled order is never live again**: cancelling an Active order makes it Cancelled with the
book time as end time, and whatever valid fault-free operations follow — placements of it, further
cancels, modifications, clock changes, trading switches, reloads — its record stays exactly that. So an
agent that cancelled its order while it saw it Active holds no live order from then on. -/
theorem cancelled_order_never_live_again {b : Book} (h : Inv b) (id : Nat) (e : Entry) (he : b.orders[id]? = some e)
    (ha : e.order.status = .active) (hnf : (b.step (.cancel id)).1.faulted = false)
    (cont : List Op) (hv : ∀ op ∈ cont, ValidOp op) (hnf' : NoFault (b.step (.cancel id)).1 cont) :
    ∃ e', ((b.step (.cancel id)).1.run cont).orders[id]? = some e' ∧
      e'.order = { e.order with status := .cancelled, endt := b.t } := by
  obtain ⟨e1, he1, h1⟩ := abs_step_get h (.cancel id) trivial hnf
    (Ref.cancel_active (abs b) id e.order (abs_get_of he) ha)
  have hinv := inv_step h (.cancel id) trivial hnf
  obtain ⟨e2, he2, hadv⟩ := lifecycle_run hinv cont hv hnf' id e1 he1
  refine ⟨e2, he2, ?_⟩
  have ht : isTerminal e1.order.status = true := by rw [h1]; rfl
  rw [hadv.term ht, h1]
  rfl

end Bourse.Props.C04

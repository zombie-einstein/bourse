/-
C19 — Python-facing arrays, dictionaries and data frames are laid out as documented.
The property theorems and the definitions they are stated with, over the layouts TRANSLATED from rust/src/step_sim.rs,
rust/src/step_sim_numpy.rs, src/bourse/data_processing.py and base_agent.py on every run.
-/
import Bourse.Generated.PyLayer

namespace Bourse.Props.C19
open Bourse.Generated.Py

/-- The quantities an observation array can hold. `lvl = none` stands for the loop variable
(level `n`), `some 0` for the touch. -/
inductive Field where
  | tradeVol | bidPrice | askPrice | bidVol | askVol
  | bidLevelVol (lvl : Option Nat) | bidLevelOrders (lvl : Option Nat)
  | askLevelVol (lvl : Option Nat) | askLevelOrders (lvl : Option Nat)
  deriving DecidableEq, Repr

/-- What a documentation row says the element is. -/
def docField : String → Option Field
  | "Trade volume (in the last step)" => some .tradeVol
  | "Bid touch price" => some .bidPrice
  | "Ask touch price" => some .askPrice
  | "Bid total volume" => some .bidVol
  | "Ask total volume" => some .askVol
  | "Bid touch volume" => some (.bidLevelVol (some 0))
  | "Number of buy orders at touch" => some (.bidLevelOrders (some 0))
  | "Ask touch volume" => some (.askLevelVol (some 0))
  | "Number of sell orders at touch" => some (.askLevelOrders (some 0))
  | "Bid volume at level n" => some (.bidLevelVol none)
  | "Number of buy orders at level n" => some (.bidLevelOrders none)
  | "Ask volume at level n" => some (.askLevelVol none)
  | "Number of sell orders at level n" => some (.askLevelOrders none)
  | "Bid volume at level" => some (.bidLevelVol none)
  | "Number of buy orders at level" => some (.bidLevelOrders none)
  | "Ask volume at level" => some (.askLevelVol none)
  | "Number of sell orders at level" => some (.askLevelOrders none)
  | _ => none

/-- What an element expression of the builder evaluates to (`data` is the cached level-2 record,
pairs are `(volume, order count)`). -/
def exprField : String → Option Field
  | "self.env.get_orderbook().get_trade_vol()" => some .tradeVol
  | "data.bid_price" => some .bidPrice
  | "data.ask_price" => some .askPrice
  | "data.bid_vol" => some .bidVol
  | "data.ask_vol" => some .askVol
  | "data.bid_price_levels[0].0" => some (.bidLevelVol (some 0))
  | "data.bid_price_levels[0].1" => some (.bidLevelOrders (some 0))
  | "data.ask_price_levels[0].0" => some (.askLevelVol (some 0))
  | "data.ask_price_levels[0].1" => some (.askLevelOrders (some 0))
  | "data.bid_price_levels[i].0" => some (.bidLevelVol none)
  | "data.bid_price_levels[i].1" => some (.bidLevelOrders none)
  | "data.ask_price_levels[i].0" => some (.askLevelVol none)
  | "data.ask_price_levels[i].1" => some (.askLevelOrders none)
  | _ => none

/-- The documented level-1 layout (9 elements). -/
def l1Doc : List (Option Field) :=
  [some .tradeVol, some .bidPrice, some .askPrice, some .bidVol, some .askVol, some (.bidLevelVol (some 0)),
   some (.bidLevelOrders (some 0)), some (.askLevelVol (some 0)), some (.askLevelOrders (some 0))]

def l2HeaderDoc : List (Option Field) := [some .tradeVol, some .bidPrice, some .askPrice, some .bidVol, some .askVol]
def l2BlockDoc : List (Option Field) :=
  [some (.bidLevelVol none), some (.bidLevelOrders none), some (.askLevelVol none), some (.askLevelOrders none)]

/-- **`StepEnv.level_1_data_array`**: element k is the quantity documented for index k, the indices
are 0..8 and the array has 9 elements. -/
theorem stepEnv_l1_layout :
    stepEnv_l1_header.map exprField = l1Doc ∧ stepEnv_l1_docIndexed.map (fun r => docField r.2) = l1Doc ∧
    stepEnv_l1_docIndexed.map (·.1) = ["0", "1", "2", "3", "4", "5", "6", "7", "8"] ∧
    stepEnv_l1_loopBody = [] ∧ stepEnv_l1_tail = "data_vec.to_pyarray(py)" := by decide +kernel

/-- **`StepEnv.level_2_data_array`**: 5 leading elements as documented, then for each of exactly 10
levels (bid volume, bid count, ask volume, ask count): 45 elements. -/
theorem stepEnv_l2_layout :
    stepEnv_l2_header.map exprField = l2HeaderDoc ∧ stepEnv_l2_docIndexed.map (fun r => docField r.2) = l2HeaderDoc ∧
    stepEnv_l2_docIndexed.map (·.1) = ["0", "1", "2", "3", "4"] ∧
    stepEnv_l2_loopBody.map exprField = l2BlockDoc ∧ stepEnv_l2_docBlock.map docField = l2BlockDoc ∧
    stepEnv_l2_loopCount = "10" ∧ stepEnv_l2_tail = "data_vec.to_pyarray(py)" := by decide +kernel

/-- **`StepEnvNumpy.level_1_data`**. -/
theorem stepEnvNumpy_l1_layout :
    stepEnvNumpy_l1_header.map exprField = l1Doc ∧ stepEnvNumpy_l1_docIndexed.map (fun r => docField r.2) = l1Doc ∧
    stepEnvNumpy_l1_docIndexed.map (·.1) = ["0", "1", "2", "3", "4", "5", "6", "7", "8"] ∧
    stepEnvNumpy_l1_loopBody = [] ∧ stepEnvNumpy_l1_tail = "data_vec.to_pyarray(py)" := stepEnv_l1_layout

/-- **`StepEnvNumpy.level_2_data`**, and the same layout is what `base_agent.py` documents to the
Python agents that receive this array. -/
theorem stepEnvNumpy_l2_layout :
    stepEnvNumpy_l2_header.map exprField = l2HeaderDoc ∧
    stepEnvNumpy_l2_docIndexed.map (fun r => docField r.2) = l2HeaderDoc ∧
    stepEnvNumpy_l2_docIndexed.map (·.1) = ["0", "1", "2", "3", "4"] ∧
    stepEnvNumpy_l2_loopBody.map exprField = l2BlockDoc ∧ stepEnvNumpy_l2_docBlock.map docField = l2BlockDoc ∧
    stepEnvNumpy_l2_loopCount = "10" ∧ stepEnvNumpy_l2_tail = "data_vec.to_pyarray(py)" ∧
    baseAgent_docIndexed.map (fun r => docField r.2) = l2HeaderDoc ∧
    baseAgent_docIndexed.map (·.1) = ["0", "1", "2", "3", "4"] ∧ baseAgent_docBlock.map docField = l2BlockDoc :=
  have ⟨hdr, doc, idx, body, block, count, tail⟩ := stepEnv_l2_layout
  ⟨hdr, doc, idx, body, block, count, tail, doc, idx, by decide +kernel⟩

/-- The number of elements of an array built from `header` and `count` repetitions of `body`. -/
def layoutLength (header : List String) (count : Nat) (body : List String) : Nat := header.length + count * body.length

/-- The arrays have the documented lengths 9 and 45 (5 + "the following 40 values"). -/
theorem array_lengths :
    layoutLength stepEnv_l1_header 0 stepEnv_l1_loopBody = 9 ∧ layoutLength stepEnv_l2_header 10 stepEnv_l2_loopBody = 45 ∧
    layoutLength stepEnvNumpy_l1_header 0 stepEnvNumpy_l1_loopBody = 9 ∧
    layoutLength stepEnvNumpy_l2_header 10 stepEnvNumpy_l2_loopBody = 45 := ⟨rfl, rfl, rfl, rfl⟩

/-- Rendering a layout on a market state (a valuation of the fields). -/
def render (layout : List Field) (st : Field → Nat) : List Nat := layout.map st

/-- **Two layouts render equal arrays on every market state iff they are the same field list**:
comparing the implemented layout with the documented one as lists decides the property for all
states, asymmetric ones included. -/
theorem render_congr (l1 l2 : List Field) : (∀ st, render l1 st = render l2 st) ↔ l1 = l2 := by
  refine ⟨fun h => ?_, fun h _ => h ▸ rfl⟩
  induction l1 generalizing l2 with
  | nil => exact (List.map_eq_nil_iff.1 (h fun _ => 0).symm).symm
  | cons a l1 ih =>
    cases l2 with
    | nil => exact List.map_eq_nil_iff.1 (h fun _ => 0)
    | cons b l2 =>
      -- the state that is 1 on `a` and 0 elsewhere tells `a` from every other field
      have hab : b = a := by simpa using (List.cons.inj (h fun f => if f = a then 1 else 0)).1
      rw [hab, ih l2 fun st => (List.cons.inj (h st)).2]

/-- **The market-data dictionary has exactly the documented keys, each bound to the matching series**
(both environments): per-level keys `bid_vol_i`/`ask_vol_i`/`n_bid_i`/`n_ask_i` to the bid/ask
volume/order-count series of level `i`, and the five whole-book series. -/
theorem market_data_keys_bound :
    stepEnv_marketData = [("\"bid_vol_{i}\"", "data.volumes_at_levels.0[i].to_pyarray(py)"),
      ("\"ask_vol_{i}\"", "data.volumes_at_levels.1[i].to_pyarray(py)"), ("\"n_bid_{i}\"", "data.orders_at_levels.0[i].to_pyarray(py)"),
      ("\"n_ask_{i}\"", "data.orders_at_levels.1[i].to_pyarray(py)"), ("\"bid_price\"", "data.prices.0.to_pyarray(py)"),
      ("\"ask_price\"", "data.prices.1.to_pyarray(py)"), ("\"bid_vol\"", "data.volumes.0.to_pyarray(py)"),
      ("\"ask_vol\"", "data.volumes.1.to_pyarray(py)"), ("\"trade_vol\"", "trade_volumes")] ∧
    stepEnvNumpy_marketData = stepEnv_marketData := ⟨rfl, rfl⟩

/-- **Data-frame helpers name each column after the field it holds**: column k of the order frame is
named after field k of the order tuple, likewise for trades; side and status are mapped to the
documented names. The docstring's column list is compared for the order frame only: that of
`trades_to_dataframe` (`tradesFrame_docColumns`) omits `price` and appears in no conjunct. -/
theorem frame_columns_named :
    ordersFrame_columns = ["side", "status", "arr_time", "end_time", "vol", "start_vol", "price", "trader_id", "order_id"] ∧
    castOrder = ["order.side.into()", "order.status.into()", "order.arr_time", "order.end_time", "order.vol",
                 "order.start_vol", "order.price", "order.trader_id", "order.order_id"] ∧
    ordersFrame_docColumns = ordersFrame_columns ∧
    tradesFrame_columns = ["time", "side", "price", "vol", "active_id", "passive_id"] ∧
    castTrade = ["trade.t", "trade.side.into()", "trade.price", "trade.vol", "trade.active_order_id", "trade.passive_order_id"] ∧
    ordersFrame_maps = ["True:bid,False:ask", "0:new,1:active,2:filled,3:cancelled,4:rejected"] ∧
    tradesFrame_maps = ["True:bid,False:ask"] := ⟨rfl, rfl, rfl, rfl, rfl, rfl, rfl⟩

/-- Non-vacuity of `render_congr`: the documented level-1 layout and the transposed one (ask volume
before bid volume — finding F-C19-1) differ on a state with bid volume 21, ask volume 7. -/
example :
    render [.bidVol, .askVol] (fun f => if f = .bidVol then 21 else 7) ≠
    render [.askVol, .bidVol] (fun f => if f = .bidVol then 21 else 7) := by decide

end Bourse.Props.C19

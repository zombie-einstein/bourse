/-
C17 — momentum agents trade symmetrically in rising and falling markets.
The property theorems, with the two helpers they need (`signalsFrom_mirror`, `absR_neg`): over the
exact-rational decision skeleton `Model/Momentum.lean`, and the same statements in binary64 over the
signal and the whole update of `Model/FloatAgents.lean`.
The float function `tanh` is abstracted: `th` is ANY odd function (for `tanh`: an idealisation
recorded in the trusted base); the saturated-regime check and the mirrored-run comparison on the real
agent are the tie to the code.
-/
import Bourse.Model.Momentum
import Bourse.Lemmas.MomentumF64
import Bourse.Lemmas.FloatAgentsValid
import Mathlib.Tactic.Ring
import Mathlib.Algebra.Order.Field.Rat

namespace Bourse.Props.C17
open Bourse Bourse.Momentum

/-- The documented update `M = m(1 - decay) + decay(P - p)`. -/
theorem momentum_update (decay m p P : Rat) : nextM decay m p P = m * (1 - decay) + decay * (P - p) := rfl

/-- Mirroring two successive prices about a level `c` negates the update of a negated signal. -/
theorem nextM_mirror (decay m p P c : Rat) :
    nextM decay (-m) (2 * c - p) (2 * c - P) = - nextM decay m p P := by
  simp only [nextM]; ring

theorem signalsFrom_mirror (decay c : Rat) (m p : Rat) (path : List Rat) :
    signalsFrom decay (-m) (2 * c - p) (path.map fun P => 2 * c - P) =
      (signalsFrom decay m p path).map fun x => -x := by
  induction path generalizing m p with
  | nil => rfl
  | cons P rest ih =>
    simp only [List.map_cons, signalsFrom, nextM_mirror]
    rw [ih]

/-- **Mirroring a price history about a fixed level negates every momentum signal**, at every
step, for every decay. -/
theorem momentum_mirror (decay c : Rat) (path : List Rat) :
    signals decay (path.map fun P => 2 * c - P) = (signals decay path).map fun x => -x := by
  cases path with
  | nil => rfl
  | cons P rest =>
    simp only [List.map_cons, signals]
    rw [← signalsFrom_mirror decay c, neg_zero]

theorem absR_neg (x : Rat) : absR (-x) = absR x := by
  unfold absR
  rcases lt_trichotomy x 0 with h | h | h
  · rw [if_neg (not_lt.mpr (neg_nonneg.mpr h.le)), if_pos h]
  · simp only [h, neg_zero]
  · rw [if_pos (neg_lt_zero.mpr h), if_neg (not_lt.mpr h.le), neg_neg]

/-- **The propensity to trade depends only on the magnitude of M**: for an odd `th` the
probability at `-M` equals the probability at `M`. -/
theorem pMarket_even (th : Rat → Rat) (hodd : ∀ x, th (-x) = - th x) (demand scale n m : Rat) :
    pMarket th demand scale n (-m) = pMarket th demand scale n m := by
  unfold pMarket
  rw [mul_neg, hodd, mul_neg, neg_div, absR_neg]

def flip : Action → Action
  | .buy => .sell
  | .sell => .buy
  | .nothing => .nothing

/-- **Full symmetry of one decision**: with the same probability and the same uniform draw, the
decision at `-M` is the side-mirror of the decision at `M` — buys become sells and vice versa,
inaction stays inaction. -/
theorem decide_mirror (p m u : Rat) : Momentum.decide p (-m) u = flip (Momentum.decide p m u) := by
  unfold Momentum.decide
  by_cases hu : u < p
  · rw [if_pos hu, if_pos hu]
    rcases lt_trichotomy m 0 with h | h | h
    · rw [if_pos (neg_pos.mpr h), if_neg (not_lt.mpr h.le), if_pos h]; rfl
    · rw [h, neg_zero, if_neg (lt_irrefl _), if_neg (lt_irrefl _)]; rfl
    · rw [if_neg (not_lt.mpr (neg_nonpos.mpr h.le)), if_pos (neg_lt_zero.mpr h), if_pos h]; rfl
  · rw [if_neg hu, if_neg hu]; rfl

/-- Hence the agent buys only when `M > 0`, sells only when `M < 0`, and does nothing when `M = 0`,
whatever the probability and the draw. -/
theorem direction_follows_sign (p m u : Rat) :
    (Momentum.decide p m u = .buy → m > 0) ∧ (Momentum.decide p m u = .sell → m < 0) ∧
    (m = 0 → Momentum.decide p m u = .nothing) := by
  unfold Momentum.decide
  by_cases hu : u < p
  · rw [if_pos hu]
    rcases lt_trichotomy m 0 with h | h | h
    · rw [if_neg (not_lt.mpr h.le), if_pos h]
      exact ⟨nofun, fun _ => h, fun h0 => absurd h0 h.ne⟩
    · rw [h, if_neg (lt_irrefl _), if_neg (lt_irrefl _)]
      exact ⟨nofun, nofun, fun _ => rfl⟩
    · rw [if_pos h]
      exact ⟨fun _ => h, nofun, fun h0 => absurd h0 h.ne'⟩
  · rw [if_neg hu]
    exact ⟨nofun, nofun, fun _ => rfl⟩

/-- In the saturated regime (probability at least 1) every draw `u < 1` acts, in the direction of
the sign of `M`. -/
theorem saturated_always_acts (p m u : Rat) (hp : 1 ≤ p) (hu : u < 1) :
    Momentum.decide p m u = (if m > 0 then .buy else if m < 0 then .sell else .nothing) :=
  if_pos (lt_of_lt_of_le hu hp)

/-- Non-vacuity: an odd, sign-preserving rational stand-in for `tanh`, a rising path and its mirror. -/
example :
    let th : Rat → Rat := fun x => x / (1 + absR x)
    (th (-3) = - th 3) ∧
    signals (1/2) [100, 101, 103, 103] = [0, 1/2, 5/4, 5/8] ∧
    signals (1/2) ([100, 101, 103, 103].map fun P => 2 * 100 - P) = [0, -1/2, -5/4, -5/8] ∧
    Momentum.decide (pMarket th 5 1 2 (5/4)) (5/4) (1/2) = .buy ∧
    Momentum.decide (pMarket th 5 1 2 (-5/4)) (-5/4) (1/2) = .sell := by
  decide +kernel

/-! The same statements in the arithmetic the agent performs, binary64. `Model/FloatAgents.lean` computes the signal with the `f64` model (`M' = fl(fl(M·fl(1 − decay)) +
fl(decay·fl(P − p)))`, `p = |fl(fl(demand·tanh(fl(scale·M'))) / n)|`); the correspondence check requires this
model to predict every decision of the real agents bit for bit. `tanh` is any function `th` with
`th(−x) = −th(x)` (true of libm's implementation, which the tie records as a table). -/

/-- Rounding commutes with negation: the source of every symmetry below. -/
theorem f64_round_odd (x : Rat) : F64.rnd (-x) = F64.neg (F64.rnd x) := F64.rnd_neg x

/-- **The trade probability depends only on the magnitude of `M`**, in `f64`, for every parameterisation. -/
theorem probability_depends_on_magnitude_f64 (c : FAgents.MomP) (th : F → F)
    (hodd : ∀ x, th (F64.neg x) = F64.neg (th x)) (hn : 0 < c.n) (m : F) :
    FAgents.pMarket c th (F64.neg m) = FAgents.pMarket c th m := FAgents.pMarket_neg c th hodd hn m

/-- **Mirroring a price history about a fixed level mirrors the signal**, in `f64`: along every path of
observed mid-prices, from the initial state, the mirrored run's `M` is the negative of the original's at
every update and the market- and limit-order probabilities are the same `f64` values. -/
theorem momentum_mirror_f64 (c : FAgents.MomP) (th : F → F)
    (hodd : ∀ x, th (F64.neg x) = F64.neg (th x)) (hn : 0 < c.n) (L : Rat) (path : List Rat) :
    FAgents.signalsFrom c th FAgents.MomState.init (path.map fun x => 2 * L - x) =
      (FAgents.signalsFrom c th FAgents.MomState.init path).map fun r => (F64.neg r.1, r.2.1, r.2.2) := by
  have h := FAgents.signals_mirror c th hodd hn L path FAgents.MomState.init (by intro p hp; simp [FAgents.MomState.init] at hp)
  simpa [FAgents.mirrorState, FAgents.MomState.init, F64.neg] using h

/-- The buy test `0 < M` of one run is the sell test `M < 0` of the mirrored run, so with the same
uniform draws buys become sells at the same steps. -/
theorem direction_mirror_f64 (m : F) :
    F64.lt (.fin 0) (F64.neg m) = F64.lt m (.fin 0) ∧ F64.lt (F64.neg m) (.fin 0) = F64.lt (.fin 0) m :=
  FAgents.direction_mirror m

def exC : FAgents.MomP := { asset := 0, tick := 1, vol := 1, traders := [0, 1], pCancel := .fin 0,
                            decay := F64.ofBits 0x3FD3333333333333, demand := .fin 5, scale := .fin (1/2), ratio := .fin 1, n := 2 }
def exTh : F → F := fun x => x
def exA := FAgents.signalsFrom exC exTh FAgents.MomState.init [100, 201/2, 103, 205/2]
def exB := FAgents.signalsFrom exC exTh FAgents.MomState.init [100, 199/2, 97, 195/2]

/-- Non-vacuity in `f64`: decay 0.3 (not a dyadic number: bits 0x3FD3333333333333), an odd stand-in for
`tanh`, a path with half-tick mids and its mirror about 100: the signals are exact negatives of each
other (e.g. `±1925288840700887 / 2^51` at the third update) and the probabilities coincide. -/
example : exA.map (·.1) = exB.map (fun r => F64.neg r.1) ∧ exA.map (·.2) = exB.map (·.2) ∧
    (exA.map (·.1))[2]? = some (.fin (1925288840700887 / 2251799813685248)) := by
  decide +kernel

/-- **Direction follows the sign of `M`, and `M = 0` does nothing**, for the whole update of the modelled
agent: whatever a momentum agent's update submits, buys occur only if `0 < M` and sells only if `M < 0`
(`Reach` with these two flags), and the agent's next state carries exactly the signal computed from
the observed mid-prices. -/
theorem update_direction_follows_signal (c : FAgents.MomP) (smp : FAgents.Sampler) (th : F → F) (s : FAgents.MomState)
    (e : MEnv) (g : Xoro) (b : Book) (hb : e.market.books[c.asset]? = some b) (hq : FAgents.QuoteOk b.mid2 c.tick smp)
    {s' e' g'} (h : FAgents.momUpdate c smp th s e g = some (s', e', g')) :
    FAgents.Reach c.asset c.tick c.vol c.traders ((b.mid2 : Rat) / 2) s.orders
      (F64.lt (.fin 0) (FAgents.signal c th s (.fin ((b.mid2 : Rat) / 2))).1)
      (F64.lt (FAgents.signal c th s (.fin ((b.mid2 : Rat) / 2))).1 (.fin 0)) e e' ∧
    s'.m = (FAgents.signal c th s (.fin ((b.mid2 : Rat) / 2))).1 ∧ s'.last = some (.fin ((b.mid2 : Rat) / 2)) :=
  FAgents.momUpdate_reach c smp th s e g b hb hq h

/-- With a zero signal the update leaves every book exactly as it was. -/
theorem zero_signal_does_nothing {a tick vol trs mid own e0 e}
    (h : FAgents.Reach a tick vol trs mid own false false e0 e) : e.market = e0.market :=
  FAgents.reach_no_direction_market h

end Bourse.Props.C17

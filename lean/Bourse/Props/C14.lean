/-
C14 — the assets of a multi-asset market are independent books sharing one clock.
The property theorems and the definitions they are stated with.
-/
import Bourse.Model.Market

namespace Bourse.Props.C14
open Bourse

/-- What a stand-alone book for asset `a` sees of a market-level operation: operations addressed
to `a`, and every fan-out operation (clock, trading flag, counter reset, snapshot reload). -/
def project (a : Nat) : Market.MOp → Option Op
  | .on a' op => if a' = a then some op else none
  | .time t => some (.time t)
  | .trading on => some (.trading on)
  | .resetVol => some .resetVol
  | .reload => some .reload

theorem stepOn_books (m : Market) (a : Nat) (op : Op) (a' : Nat) :
    (m.stepOn a op).1.books[a']? =
      if a = a' then (m.books[a']?).map fun b => (b.step op).1 else m.books[a']? := by
  unfold Market.stepOn
  split
  · rename_i b hb
    rw [List.getElem?_set]
    split
    · rename_i haa
      subst haa
      rw [hb, if_pos (List.getElem?_eq_some_iff.mp hb).1]
      rfl
    · rfl
  · rename_i hb
    split
    · rename_i haa
      subst haa
      rw [hb]
      rfl
    · rfl

/-- **Locality.** An operation addressed to asset `a` changes book `a` by exactly the single-book
operation and returns that book's result; no other book changes. -/
theorem market_op_local (m : Market) (a : Nat) (op : Op) (b : Book) (h : m.books[a]? = some b) :
    (m.step (.on a op)).1.books[a]? = some (b.step op).1 ∧ (m.step (.on a op)).2 = (b.step op).2 ∧
    ∀ a', a' ≠ a → (m.step (.on a op)).1.books[a']? = m.books[a']? := by
  obtain ⟨hlt, hb⟩ := List.getElem?_eq_some_iff.mp h
  refine ⟨by simp [Market.step, Market.stepOn, hlt, hb], by simp [Market.step, Market.stepOn, h], ?_⟩
  intro a' hne
  simp [Market.step, Market.stepOn, h, Ne.symm hne]

/-- **Fan-out.** Clock changes, trading toggles, counter resets and reloads act on every book. -/
theorem market_fanout (m : Market) (t : Nat) :
    (m.step (.time t)).1.books = m.books.map (fun b => (b.step (.time t)).1) ∧
    (m.step (.trading true)).1.books = m.books.map (fun b => (b.step (.trading true)).1) ∧
    (m.step (.trading false)).1.books = m.books.map (fun b => (b.step (.trading false)).1) ∧
    (m.step .resetVol).1.books = m.books.map (fun b => (b.step .resetVol).1) ∧
    (m.step .reload).1.books = m.books.map (fun b => (b.step .reload).1) := by
  refine ⟨rfl, rfl, rfl, rfl, rfl⟩

/-- Every all-asset query returns each asset's own value, in asset order. -/
theorem market_queries_pointwise (m : Market) (n : Nat) :
    m.level2 n = m.books.map (·.level2 n) ∧ m.tradeVols = m.books.map (·.tradeVol) := ⟨rfl, rfl⟩

theorem step_project (m : Market) (op : Market.MOp) (a : Nat) :
    (m.step op).1.books[a]? =
      (m.books[a]?).map (fun b => match project a op with
                                  | some o => (b.step o).1
                                  | none => b) := by
  cases op with
  | on a' o =>
    simp only [Market.step, project, stepOn_books]
    split
    · rfl
    · exact Option.map_id'.symm
  | time t => simp [Market.step, Market.setTime, project, Book.step]
  | trading on => cases on <;> simp [Market.step, Market.enableTrading, Market.disableTrading, project, Book.step]
  | resetVol => simp [Market.step, Market.resetTradeVols, project, Book.step]
  | reload => simp [Market.step, Market.reload, project]

/-- **Projection law.** After any sequence of market operations, asset `a`'s book is exactly what
a stand-alone book produces when fed that asset's operations (and the shared clock / flag
operations) in the same order: assets never influence one another. -/
theorem market_projection (m : Market) (ops : List Market.MOp) (a : Nat) :
    (m.run ops).books[a]? = (m.books[a]?).map (fun b => b.run (ops.filterMap (project a))) := by
  induction ops generalizing m with
  | nil => simp [Market.run, Book.run]
  | cons op ops ih =>
    simp only [Market.run, List.foldl_cons] at ih ⊢
    rw [ih (m.step op).1, step_project]
    cases hb : m.books[a]? with
    | none => rfl
    | some b =>
      simp only [Option.map_some, List.filterMap_cons]
      cases hp : project a op with
      | none => rfl
      | some o => simp [Book.run]

theorem n_assets_constant (m : Market) (op : Market.MOp) : (m.step op).1.books.length = m.books.length := by
  cases op with
  | on a o => simp only [Market.step, Market.stepOn]; split <;> simp
  | time t => simp [Market.step, Market.setTime]
  | trading on => cases on <;> simp [Market.step, Market.enableTrading, Market.disableTrading]
  | resetVol => simp [Market.step, Market.resetTradeVols]
  | reload => simp [Market.step, Market.reload]

theorem run_books_length (m : Market) (ops : List Market.MOp) : (m.run ops).books.length = m.books.length := by
  induction ops generalizing m with
  | nil => rfl
  | cons op rest ih => exact (ih (m.step op).1).trans (n_assets_constant m op)

/-- Non-vacuity: two assets with different tick sizes, interleaved operations giving both assets
the same local ids; asset 1's book equals the stand-alone run of its own operations. -/
example :
    let m := Market.new 0 [1, 2] true
    let ops : List Market.MOp := [.on 0 (.cap .ask 5 1 (some 10)), .on 1 (.cap .ask 5 1 (some 10)), .time 1,
      .on 0 (.cap .bid 3 2 (some 10)), .on 1 (.cap .bid 7 2 (some 12)), .time 2, .on 1 (.cancel 1),
      .on 0 (.modify 0 (some 11) none)]
    (m.run ops).books[1]? = some ((Book.new 0 2 true).run
      [.cap .ask 5 1 (some 10), .time 1, .cap .bid 7 2 (some 12), .time 2, .cancel 1]) ∧
    ((m.run ops).books.map (·.trades.length)) = [1, 1] := by decide

end Bourse.Props.C14

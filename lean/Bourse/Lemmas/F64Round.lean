/-
Correctly rounded binary64 arithmetic (`Model/F64.lean`): the rounding function `rnd` is monotone,
fixes every representable value (integers below 2^52 and half-integers below 2^53 in particular),
preserves sign, and in the normal range is within relative distance 2^-53 of the exact value.
Proved for the executable definition the driver runs against the hardware on every check.
-/
import Bourse.Model.F64
import Mathlib.Algebra.Order.Field.Rat
import Mathlib.Algebra.Order.Floor.Ring
import Mathlib.Tactic.Linarith
import Mathlib.Tactic.Ring
import Mathlib.Tactic.NormNum

namespace Bourse
namespace F64

/-- The order on `f64` values; NaN is comparable to nothing. -/
def le : F → F → Prop
  | .nan, _ => False
  | _, .nan => False
  | .ninf, _ => True
  | _, .pinf => True
  | .fin a, .fin b => a ≤ b
  | _, _ => False

theorem pow2_eq (e : Int) : pow2 e = (2 : ℚ) ^ e := by
  fun_cases pow2 e with
  | case1 h =>
    obtain ⟨n, rfl⟩ := Int.eq_ofNat_of_zero_le h
    simp
  | case2 h =>
    obtain ⟨n, rfl⟩ := Int.exists_eq_neg_ofNat (not_le.mp h).le
    simp

theorem pow2_pos (e : Int) : 0 < pow2 e := by rw [pow2_eq]; exact zpow_pos (by norm_num) _

theorem pow2_add (a b : Int) : pow2 (a + b) = pow2 a * pow2 b := by
  simp only [pow2_eq]; exact zpow_add₀ (by norm_num) a b

theorem pow2_le {a b : Int} (h : a ≤ b) : pow2 a ≤ pow2 b := by
  simp only [pow2_eq]; exact zpow_le_zpow_right₀ (by norm_num) h

theorem pow2_lt_iff {a b : Int} : pow2 a < pow2 b ↔ a < b := by
  simp only [pow2_eq]; exact zpow_lt_zpow_iff_right₀ (by norm_num)

theorem pow2_succ (a : Int) : pow2 (a + 1) = 2 * pow2 a := by
  rw [pow2_add, mul_comm, pow2_eq 1, zpow_one]

theorem pow2_natCast (n : ℕ) : pow2 (n : ℤ) = ((2 ^ n : ℕ) : ℚ) := by
  rw [pow2_eq, zpow_natCast, Nat.cast_pow, Nat.cast_ofNat]

theorem pow2_log2 {n : ℕ} (hn : n ≠ 0) :
    pow2 (Nat.log2 n : ℤ) ≤ (n : ℚ) ∧ (n : ℚ) < pow2 ((Nat.log2 n : ℤ) + 1) := by
  rw [← Nat.cast_succ, pow2_natCast, pow2_natCast]
  exact ⟨Nat.cast_le.mpr (Nat.log2_self_le hn), Nat.cast_lt.mpr Nat.lt_log2_self⟩

theorem ilog2_spec (x : ℚ) (hx : 0 < x) : pow2 (ilog2 x) ≤ x ∧ x < pow2 (ilog2 x + 1) := by
  have hnum : 0 < x.num := Rat.num_pos.mpr hx
  obtain ⟨a1, a2⟩ := pow2_log2 (n := x.num.toNat) (by omega)
  obtain ⟨d1, d2⟩ := pow2_log2 x.den_nz
  have hd : (0 : ℚ) < (x.den : ℚ) := Nat.cast_pos.mpr x.den_pos
  have hxe : x = (x.num.toNat : ℚ) / (x.den : ℚ) := by
    rw [← Int.cast_natCast, Int.toNat_of_nonneg hnum.le]; exact (Rat.num_div_den x).symm
  set A : ℤ := (Nat.log2 x.num.toNat : ℤ)
  set D : ℤ := (Nat.log2 x.den : ℤ)
  -- `2^(A-D-1) < x < 2^(A-D+1)`: the candidate `A - D` is right or one too big
  have up : x < pow2 (A - D + 1) := by
    rw [hxe, div_lt_iff₀ hd]
    calc (x.num.toNat : ℚ) < pow2 (A - D + 1 + D) := by rw [show A - D + 1 + D = A + 1 by omega]; exact a2
      _ = pow2 (A - D + 1) * pow2 D := pow2_add _ _
      _ ≤ pow2 (A - D + 1) * (x.den : ℚ) := mul_le_mul_of_nonneg_left d1 (pow2_pos _).le
  have lo : pow2 (A - D - 1) < x := by
    rw [hxe, lt_div_iff₀ hd]
    calc pow2 (A - D - 1) * (x.den : ℚ) < pow2 (A - D - 1) * pow2 (D + 1) := mul_lt_mul_of_pos_left d2 (pow2_pos _)
      _ = pow2 (A - D - 1 + (D + 1)) := (pow2_add _ _).symm
      _ ≤ (x.num.toNat : ℚ) := by rw [show A - D - 1 + (D + 1) = A by omega]; exact a1
  fun_cases ilog2 x with
  | case1 _ h => exact ⟨h, up⟩
  | case2 _ h => exact ⟨lo.le, by rw [show A - D - 1 + 1 = A - D by omega]; exact not_le.mp h⟩

theorem ilog2_unique (x : ℚ) (e : Int) (h1 : pow2 e ≤ x) (h2 : x < pow2 (e + 1)) : ilog2 x = e := by
  have hx : 0 < x := lt_of_lt_of_le (pow2_pos e) h1
  obtain ⟨s1, s2⟩ := ilog2_spec x hx
  have a : ilog2 x < e + 1 := pow2_lt_iff.mp (lt_of_le_of_lt s1 h2)
  have b : e < ilog2 x + 1 := pow2_lt_iff.mp (lt_of_le_of_lt h1 s2)
  omega

theorem ilog2_mono {x y : ℚ} (hx : 0 < x) (h : x ≤ y) : ilog2 x ≤ ilog2 y := by
  have hy : 0 < y := lt_of_lt_of_le hx h
  obtain ⟨s1, _⟩ := ilog2_spec x hx
  obtain ⟨_, t2⟩ := ilog2_spec y hy
  have : ilog2 x < ilog2 y + 1 := pow2_lt_iff.mp (lt_of_le_of_lt (le_trans s1 h) t2)
  omega

/-- All that is used of `rne`; the tie rule plays no part. -/
theorem rne_cases (q : ℚ) :
    (rne q = q.floor ∧ q - q.floor ≤ 1 / 2) ∨ (rne q = q.floor + 1 ∧ 1 / 2 ≤ q - q.floor) := by
  fun_cases rne q with
  | case1 _ _ h => exact .inl ⟨rfl, h.le⟩
  | case2 _ _ _ h => exact .inr ⟨rfl, h.le⟩
  | case3 _ _ _ h => exact .inl ⟨rfl, not_lt.mp h⟩
  | case4 _ _ h => exact .inr ⟨rfl, not_lt.mp h⟩

theorem rne_int (z : ℤ) : rne (z : ℚ) = z := by
  rcases rne_cases (z : ℚ) with ⟨e, _⟩ | ⟨_, h⟩
  · rw [e, Rat.floor_intCast]
  · rw [Rat.floor_intCast, sub_self] at h
    norm_num at h

theorem rne_err (q : ℚ) : |(rne q : ℚ) - q| ≤ 1 / 2 := by
  rcases rne_cases q with ⟨e, h⟩ | ⟨e, h⟩
  · rw [e, abs_sub_comm, abs_of_nonneg (sub_nonneg.mpr (Rat.floor_le q))]
    exact h
  · have h2 := Rat.lt_floor_add_one q
    rw [e, abs_of_nonneg (sub_nonneg.mpr h2.le), Int.cast_add, Int.cast_one]
    linarith

theorem ceil_le_ceil {a b : ℚ} (h : a ≤ b) : a.ceil ≤ b.ceil :=
  Rat.ceil_le_iff.mpr (h.trans Rat.le_ceil)

/-- Any choice of a nearest integer is monotone: were `rne b < rne a` with `a ≤ b`, then
`rne b + 1 ≤ rne a ≤ a + 1/2 ≤ b + 1/2 ≤ rne b + 1` forces `a = b`. -/
theorem rne_mono {a b : ℚ} (h : a ≤ b) : rne a ≤ rne b := by
  by_contra hc
  have hc : ((rne b + 1 : ℤ) : ℚ) ≤ (rne a : ℚ) := Int.cast_le.mpr (Int.add_one_le_of_lt (not_le.mp hc))
  rw [Int.cast_add, Int.cast_one] at hc
  have ha := (abs_le.mp (rne_err a)).2
  have hb := (abs_le.mp (rne_err b)).1
  have : a = b := le_antisymm h (by linarith)
  subst this
  exact (lt_add_one _).not_ge hc

theorem le_rne {z : ℤ} {q : ℚ} (h : (z : ℚ) ≤ q) : z ≤ rne q :=
  (rne_int z).ge.trans (rne_mono h)

theorem rne_le {z : ℤ} {q : ℚ} (h : q ≤ (z : ℚ)) : rne q ≤ z :=
  (rne_mono h).trans (rne_int z).le

/-- exponent of the binade used for rounding `a` -/
def bexp (a : ℚ) : Int := max (ilog2 a) (-1022)

theorem ulp_eq (a : ℚ) : ulp a = pow2 (bexp a - 52) := rfl

theorem ulp_pos (a : ℚ) : 0 < ulp a := pow2_pos _

/-- Rounding does not cross an integer multiple of the ulp. -/
theorem le_rndPos {a : ℚ} {z : ℤ} (h : (z : ℚ) * ulp a ≤ a) : (z : ℚ) * ulp a ≤ rndPos a :=
  mul_le_mul_of_nonneg_right (Int.cast_le.mpr (le_rne ((le_div_iff₀ (ulp_pos a)).mpr h))) (ulp_pos a).le

theorem rndPos_le {a : ℚ} {z : ℤ} (h : a ≤ (z : ℚ) * ulp a) : rndPos a ≤ (z : ℚ) * ulp a :=
  mul_le_mul_of_nonneg_right (Int.cast_le.mpr (rne_le ((div_le_iff₀ (ulp_pos a)).mpr h))) (ulp_pos a).le

theorem rndPos_nonneg {a : ℚ} (ha : 0 ≤ a) : 0 ≤ rndPos a := by
  have := le_rndPos (a := a) (z := 0) (by rw [Int.cast_zero, zero_mul]; exact ha)
  rw [Int.cast_zero, zero_mul] at this
  exact this

theorem rndPos_err_ulp (a : ℚ) : |rndPos a - a| ≤ ulp a / 2 := by
  unfold rndPos
  have hu := ulp_pos a
  have h := rne_err (a / ulp a)
  have : (rne (a / ulp a) : ℚ) * ulp a - a = ((rne (a / ulp a) : ℚ) - a / ulp a) * ulp a := by
    rw [sub_mul, div_mul_cancel₀ a hu.ne']
  rw [this, abs_mul, abs_of_pos hu]
  calc |(rne (a / ulp a) : ℚ) - a / ulp a| * ulp a ≤ 1 / 2 * ulp a :=
        mul_le_mul_of_nonneg_right h (le_of_lt hu)
    _ = ulp a / 2 := by ring

theorem rndPos_err {a : ℚ} (ha : 0 < a) (hn : -1022 ≤ ilog2 a) : |rndPos a - a| ≤ a * pow2 (-53) := by
  have h := rndPos_err_ulp a
  have hu : ulp a / 2 = pow2 (ilog2 a) * pow2 (-53) := by
    rw [ulp_eq, show bexp a = ilog2 a from max_eq_left hn, show ilog2 a - 52 = ilog2 a + (-53) + 1 by ring, pow2_succ, pow2_add]
    ring
  rw [hu] at h
  have hs := (ilog2_spec a ha).1
  calc |rndPos a - a| ≤ pow2 (ilog2 a) * pow2 (-53) := h
    _ ≤ a * pow2 (-53) := mul_le_mul_of_nonneg_right hs (le_of_lt (pow2_pos _))

theorem pow2_mul_ulp (n : ℕ) (a : ℚ) : ((2 ^ n : ℤ) : ℚ) * ulp a = pow2 ((n : ℤ) + (bexp a - 52)) := by
  rw [ulp_eq, pow2_add, pow2_natCast, Int.cast_pow, Int.cast_ofNat, Nat.cast_pow, Nat.cast_ofNat]

theorem natCast_lt_pow2_53 {n : ℕ} (h : n < 9007199254740992) : (n : ℚ) < pow2 53 := by
  rw [show (53 : ℤ) = ((53 : ℕ) : ℤ) from rfl, pow2_natCast]
  exact Nat.cast_lt.mpr h

/-- The binade `[2^e, 2^(e+1)]` of `a` is `[2^52, 2^53]` ulps, and rounding stays inside it. -/
theorem rndPos_le_top {a : ℚ} (ha : 0 < a) : rndPos a ≤ pow2 (bexp a + 1) := by
  have h : a ≤ pow2 (bexp a + 1) := ((ilog2_spec a ha).2.trans_le (pow2_le (by unfold bexp; omega))).le
  rw [show bexp a + 1 = ((53 : ℕ) : ℤ) + (bexp a - 52) by omega, ← pow2_mul_ulp] at h ⊢
  exact rndPos_le h

theorem pow2_bexp_le_rndPos {a : ℚ} (ha : 0 < a) (hn : -1022 ≤ ilog2 a) : pow2 (bexp a) ≤ rndPos a := by
  have h : pow2 (bexp a) ≤ a := by rw [show bexp a = ilog2 a from max_eq_left hn]; exact (ilog2_spec a ha).1
  rw [show bexp a = ((52 : ℕ) : ℤ) + (bexp a - 52) by omega, ← pow2_mul_ulp] at h ⊢
  exact le_rndPos h

theorem bexp_mono {a b : ℚ} (ha : 0 < a) (h : a ≤ b) : bexp a ≤ bexp b := by
  unfold bexp
  exact max_le_max (ilog2_mono ha h) (le_refl _)

theorem rndPos_mono {a b : ℚ} (ha : 0 < a) (h : a ≤ b) : rndPos a ≤ rndPos b := by
  have hb : 0 < b := lt_of_lt_of_le ha h
  rcases lt_or_eq_of_le (bexp_mono ha h) with hlt | heq
  · -- a lower binade exists, so `b` is not subnormal
    have hbn : -1022 ≤ ilog2 b := by unfold bexp at hlt; omega
    calc rndPos a ≤ pow2 (bexp a + 1) := rndPos_le_top ha
      _ ≤ pow2 (bexp b) := pow2_le (by omega)
      _ ≤ rndPos b := pow2_bexp_le_rndPos hb hbn
  · unfold rndPos
    rw [show ulp a = ulp b by rw [ulp_eq, ulp_eq, heq]]
    have hub := ulp_pos b
    exact mul_le_mul_of_nonneg_right (Int.cast_le.mpr (rne_mono (div_le_div_of_nonneg_right h hub.le))) hub.le

theorem rnd_of_pos {x : ℚ} (hx : 0 < x) :
    rnd x = if pow2 1024 ≤ rndPos x then .pinf else .fin (rndPos x) := by
  unfold rnd
  rw [if_neg (ne_of_gt hx), if_pos hx]

theorem rnd_of_neg {x : ℚ} (hx : x < 0) :
    rnd x = if pow2 1024 ≤ rndPos (-x) then .ninf else .fin (-(rndPos (-x))) := by
  unfold rnd
  rw [if_neg (ne_of_lt hx), if_neg (not_lt.mpr (le_of_lt hx))]

theorem rnd_zero : rnd 0 = .fin 0 := by unfold rnd; simp

/-- `rnd` of a non-negative value is a non-negative finite value or `+∞`. -/
theorem rnd_nonneg {x : ℚ} (hx : 0 ≤ x) : le (.fin 0) (rnd x) := by
  rcases eq_or_lt_of_le hx with h | h
  · rw [← h, rnd_zero]; exact le_refl (0 : ℚ)
  · rw [rnd_of_pos h]
    split
    · trivial
    · exact rndPos_nonneg hx

theorem rnd_nonpos {x : ℚ} (hx : x ≤ 0) : le (rnd x) (.fin 0) := by
  rcases eq_or_lt_of_le hx with h | h
  · rw [h, rnd_zero]; exact le_refl (0 : ℚ)
  · rw [rnd_of_neg h]
    split
    · trivial
    · exact neg_nonpos.mpr (rndPos_nonneg (neg_nonneg.mpr hx))

theorem le_of_nonpos_of_nonneg {a c : F} (h1 : le a (.fin 0)) (h2 : le (.fin 0) c) : le a c := by
  cases c with
  | nan => exact h2.elim
  | ninf => exact h2.elim
  | pinf =>
    cases a with
    | nan => exact h1.elim
    | _ => trivial
  | fin y =>
    cases a with
    | nan => exact h1.elim
    | pinf => exact h1.elim
    | ninf => trivial
    | fin x => exact le_trans h1 h2

/-- Saturating a magnitude at a threshold is monotone; `le_sat_neg` is the mirror image. -/
theorem le_sat {p q T : ℚ} (h : p ≤ q) :
    le (if T ≤ p then .pinf else .fin p) (if T ≤ q then .pinf else .fin q) := by
  by_cases c : T ≤ q
  · rw [if_pos c]; split <;> trivial
  · rw [if_neg c, if_neg fun hc => c (le_trans hc h)]
    exact h

theorem le_sat_neg {p q T : ℚ} (h : p ≤ q) :
    le (if T ≤ q then .ninf else .fin (-q)) (if T ≤ p then .ninf else .fin (-p)) := by
  by_cases c : T ≤ q
  · rw [if_pos c]; split <;> trivial
  · rw [if_neg c, if_neg fun hc => c (le_trans hc h)]
    exact neg_le_neg h

theorem rnd_mono {x y : ℚ} (h : x ≤ y) : le (rnd x) (rnd y) := by
  rcases lt_trichotomy x 0 with hx | hx | hx
  · rcases lt_trichotomy y 0 with hy | hy | hy
    · rw [rnd_of_neg hx, rnd_of_neg hy]
      exact le_sat_neg (rndPos_mono (neg_pos.mpr hy) (neg_le_neg h))
    · exact le_of_nonpos_of_nonneg (rnd_nonpos hx.le) (rnd_nonneg hy.ge)
    · exact le_of_nonpos_of_nonneg (rnd_nonpos hx.le) (rnd_nonneg hy.le)
  · subst hx
    rw [rnd_zero]
    exact rnd_nonneg h
  · rw [rnd_of_pos hx, rnd_of_pos (hx.trans_le h)]
    exact le_sat (rndPos_mono hx h)

/-- Representable values are fixed points: a positive `x` below `2^1024` that is an integer multiple
of its ulp. -/
theorem rnd_exact_pos {x : ℚ} (hx : 0 < x) (z : ℤ) (h : x = (z : ℚ) * ulp x) (hb : x < pow2 1024) :
    rnd x = .fin x := by
  have he : rndPos x = x := by
    unfold rndPos
    rw [(div_eq_iff (ulp_pos x).ne').mpr h, rne_int]
    exact h.symm
  rw [rnd_of_pos hx, he, if_neg (not_le.mpr hb)]

/-- Half-integers `k/2` with `k < 2^53` are `f64` values. -/
theorem rnd_half (k : ℕ) (hk : k < 9007199254740992) : rnd ((k : ℚ) / 2) = .fin ((k : ℚ) / 2) := by
  rcases Nat.eq_zero_or_pos k with rfl | hpos
  · rw [Nat.cast_zero, zero_div, rnd_zero]
  · have hx : (0 : ℚ) < (k : ℚ) / 2 := half_pos (Nat.cast_pos.mpr hpos)
    have hlt : (k : ℚ) / 2 < pow2 52 :=
      (div_lt_iff₀ two_pos).mpr (by rw [mul_comm, ← pow2_succ]; exact natCast_lt_pow2_53 hk)
    have he : bexp ((k : ℚ) / 2) ≤ 51 := by
      have : ilog2 ((k : ℚ) / 2) < 52 := pow2_lt_iff.mp (lt_of_le_of_lt (ilog2_spec _ hx).1 hlt)
      unfold bexp; omega
    -- `k/2` is `k · 2^(51 - e)` ulps
    obtain ⟨n, hn⟩ : ∃ n : ℕ, 51 - bexp ((k : ℚ) / 2) = (n : ℤ) := Int.eq_ofNat_of_zero_le (by omega)
    refine rnd_exact_pos hx ((k : ℤ) * 2 ^ n) ?_ (lt_trans hlt (pow2_lt_iff.mpr (by decide)))
    rw [Int.cast_mul, Int.cast_natCast, mul_assoc, pow2_mul_ulp, ← hn,
      show 51 - bexp ((k : ℚ) / 2) + (bexp ((k : ℚ) / 2) - 52) = -1 by omega, pow2_eq, zpow_neg_one, div_eq_mul_inv]

/-- Integers of magnitude below `2^52` are `f64` values. -/
theorem rnd_nat (n : ℕ) (hn : n < 4503599627370496) : rnd (n : ℚ) = .fin (n : ℚ) := by
  have := rnd_half (2 * n) (by omega)
  push_cast at this
  rwa [mul_div_cancel_left₀ _ (by norm_num : (2 : ℚ) ≠ 0)] at this

/-- **Error bound**: in the normal range, well below overflow, `rnd x` is a finite value within
relative distance `2^-53` of `x`. -/
theorem rnd_err {x : ℚ} (hx : 0 < x) (hlo : pow2 (-1022) ≤ x) (hhi : x < pow2 1023) :
    ∃ y : ℚ, rnd x = .fin y ∧ |y - x| ≤ x * pow2 (-53) := by
  have hn : -1022 ≤ ilog2 x := by
    have h2 := (ilog2_spec x hx).2
    have : (-1022 : ℤ) < ilog2 x + 1 := pow2_lt_iff.mp (lt_of_le_of_lt hlo h2)
    omega
  have hup : ilog2 x < 1023 := pow2_lt_iff.mp (lt_of_le_of_lt (ilog2_spec x hx).1 hhi)
  have hb : bexp x = ilog2 x := max_eq_left hn
  have htop := rndPos_le_top hx
  have : rndPos x < pow2 1024 := lt_of_le_of_lt htop (pow2_lt_iff.mpr (by rw [hb]; omega))
  refine ⟨rndPos x, ?_, rndPos_err hx hn⟩
  rw [rnd_of_pos hx, if_neg (not_le.mpr this)]

theorem pow2_neg_mul (e : ℤ) : pow2 (-e) * pow2 e = 1 := by
  rw [← pow2_add, neg_add_cancel, pow2_eq, zpow_zero]

/-- No integer lies strictly between `x = n/d` and an approximation `y` whose error, scaled by `d`,
is below 1. This is the upper side; the lower side is the same statement about the negations. -/
theorem int_le_of_near {x y δ : ℚ} {n z d : ℤ} (hd : (0 : ℚ) < d) (hxd : x * d = n)
    (hy : |y - x| ≤ δ) (hδ : δ * d < 1) (hz : (z : ℚ) ≤ y) : (z : ℚ) ≤ x := by
  have h : ((z * d : ℤ) : ℚ) < ((n + 1 : ℤ) : ℚ) := by
    push_cast
    calc (z : ℚ) * d ≤ (x + δ) * d :=
          mul_le_mul_of_nonneg_right (hz.trans (sub_le_iff_le_add'.mp ((le_abs_self _).trans hy))) hd.le
      _ = n + δ * d := by rw [add_mul, hxd]
      _ < n + 1 := (add_lt_add_iff_left _).mpr hδ
  have hzd : ((z * d : ℤ) : ℚ) ≤ ((n : ℤ) : ℚ) := Int.cast_le.mpr (Int.lt_add_one_iff.mp (Int.cast_lt.mp h))
  rw [Int.cast_mul, ← hxd] at hzd
  exact le_of_mul_le_mul_right hzd hd

theorem frac_normal {n d : ℕ} (hn0 : 0 < n) (hn : (n : ℚ) < pow2 53) (hd0 : 0 < d) (hd : (d : ℚ) ≤ pow2 1022) :
    pow2 (-1022) ≤ (n : ℚ) / d ∧ (n : ℚ) / d < pow2 1023 := by
  have hd' : (0 : ℚ) < d := Nat.cast_pos.mpr hd0
  constructor
  · rw [le_div_iff₀ hd']
    calc pow2 (-1022) * d ≤ pow2 (-1022) * pow2 1022 := mul_le_mul_of_nonneg_left hd (pow2_pos _).le
      _ = 1 := pow2_neg_mul 1022
      _ ≤ n := Nat.one_le_cast.mpr hn0
  · rw [div_lt_iff₀ hd']
    calc (n : ℚ) < pow2 53 := hn
      _ ≤ pow2 1023 := pow2_le (by decide)
      _ ≤ pow2 1023 * d := le_mul_of_one_le_right (pow2_pos _).le (Nat.one_le_cast.mpr hd0)

/-- **Rounding a fraction with numerator below `2^53` never crosses an integer**: the relative error
`2^-53` moves `n/d` by less than `1/d`, and no integer other than `n/d` itself is that close. -/
theorem rnd_frac {n d : ℕ} (hn : (n : ℚ) < pow2 53) (hd0 : 0 < d) (hd : (d : ℚ) ≤ pow2 1022) :
    ∃ y, rnd ((n : ℚ) / d) = .fin y ∧ (y.floor : ℚ) ≤ (n : ℚ) / d ∧ (n : ℚ) / d ≤ (y.ceil : ℚ) := by
  rcases Nat.eq_zero_or_pos n with rfl | hn0
  · rw [Nat.cast_zero, zero_div]
    exact ⟨0, rnd_zero, Rat.floor_le 0, Rat.le_ceil⟩
  have hd' : (0 : ℚ) < d := Nat.cast_pos.mpr hd0
  obtain ⟨hlo, hhi⟩ := frac_normal hn0 hn hd0 hd
  obtain ⟨y, hy, herr⟩ := rnd_err (div_pos (Nat.cast_pos.mpr hn0) hd') hlo hhi
  have hdz : (0 : ℚ) < ((d : ℤ) : ℚ) := by rw [Int.cast_natCast]; exact hd'
  have hxd : (n : ℚ) / d * ((d : ℤ) : ℚ) = ((n : ℤ) : ℚ) := by
    rw [Int.cast_natCast, Int.cast_natCast]; exact div_mul_cancel₀ _ hd'.ne'
  have hs : (n : ℚ) / d * pow2 (-53) * ((d : ℤ) : ℚ) < 1 := by
    rw [mul_right_comm, hxd, Int.cast_natCast, ← pow2_neg_mul (-53), neg_neg]
    exact mul_lt_mul_of_pos_right hn (pow2_pos _)
  have hfl : (y.floor : ℚ) ≤ (n : ℚ) / d := int_le_of_near hdz hxd herr hs (Rat.floor_le y)
  have herr' : |-y - -((n : ℚ) / d)| ≤ (n : ℚ) / d * pow2 (-53) := by
    rw [neg_sub_neg, abs_sub_comm]
    exact herr
  have hcl : ((-y.ceil : ℤ) : ℚ) ≤ -((n : ℚ) / d) := int_le_of_near (n := -n) hdz
    (by rw [neg_mul, hxd, Int.cast_neg]) herr' hs (by rw [Int.cast_neg]; exact neg_le_neg Rat.le_ceil)
  rw [Int.cast_neg, neg_le_neg_iff] at hcl
  exact ⟨y, hy, hfl, hcl⟩

end F64
end Bourse

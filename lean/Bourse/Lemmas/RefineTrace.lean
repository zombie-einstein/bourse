/-
Observational refinement: the state refinement of `RefineStep` put together with the published views of
`ViewsCorrect`.
-/
import Bourse.Lemmas.RefineStep
import Bourse.Lemmas.ViewsCorrect
import Bourse.Lemmas.Grid

namespace Bourse

/-- The implementation model's complete observation of a state satisfying the invariant is the
reference engine's observation (every view recomputed from the order table) of its abstraction. -/
theorem observe_abs {b : Book} (h : Inv b) (n : Nat) (hn : ∀ i, i < n → i * b.tick < P32) :
    b.observe n = Ref.observe (abs b) n := by
  obtain ⟨h1, h2, h3, h4, h5, h6, h7, h8, h9, h10⟩ := views_correct h n hn
  have hb : b.bidBestVol = b.bidBestVolAndOrders.1 := by
    simp [Book.bidBestVol, Book.bidBestVolAndOrders, SideS.bestVol]
  have ha : b.askBestVol = b.askBestVolAndOrders.1 := by
    simp [Book.askBestVol, Book.askBestVolAndOrders, SideS.bestVol]
  simp only [Book.observe, Ref.observe, hb, ha, h1, h2, h3, h4, h5, h6, h7, h8, h9, h10]
  rfl

/-- What a client sees of a history: the result of every operation and the complete observation
after it. -/
def Book.trace (n : Nat) : Book → List Op → List (Res × Obs)
  | _, [] => []
  | b, op :: rest => ((b.step op).2, (b.step op).1.observe n) :: Book.trace n (b.step op).1 rest

/-- **Observational refinement.** Along any valid, fault-free history, every result and every
complete observation of the implementation model equal those of the reference engine. -/
theorem trace_refines {b : Book} (h : Inv b) (n : Nat) (hn : ∀ i, i < n → i * b.tick < P32) (ops : List Op)
    (hv : ∀ op ∈ ops, ValidOp op) (hnf : NoFault b ops) :
    Book.trace n b ops = Ref.trace n (abs b) ops := by
  induction ops generalizing b with
  | nil => rfl
  | cons op rest ih =>
    have hs := step_refines h op (hv op List.mem_cons_self) hnf.1
    have hi := inv_step h op (hv op List.mem_cons_self) hnf.1
    have htk : (b.step op).1.tick = b.tick := step_tick b op
    have hn' : ∀ i, i < n → i * (b.step op).1.tick < P32 := by rw [htk]; exact hn
    simp only [Book.trace, Ref.trace]
    rw [ih hi hn' (fun o ho => hv o (List.mem_cons_of_mem _ ho)) hnf.2, observe_abs hi n hn', hs.1, hs.2]

theorem trace_run_new (t0 tick : Nat) (trading : Bool) (ht : 0 < tick) (ops : List Op)
    (hv : ∀ op ∈ ops, ValidOp op) (hnf : NoFault (Book.new t0 tick trading) ops) (n : Nat)
    (hn : ∀ i, i < n → i * tick < P32) :
    Book.trace n (Book.new t0 tick trading) ops = Ref.trace n (Ref.init t0 tick trading) ops :=
  trace_refines (inv_new t0 tick trading ht) n hn ops hv hnf

end Bourse

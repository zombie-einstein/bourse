/-
The limit prices the noise and momentum agents quote, in the `f64` arithmetic the Rust code really
performs (`Model/FloatAgents.lean`: `round_price_down/up`, `place_buy/sell_limit_order(_market)`):
for every sample of the price distribution the quote is on the tick grid and on the right side of
the observed mid-price. The rounding of `mid / tick` can never carry the quotient across an integer
(`rnd_quot`, an instance of `F64.rnd_frac`: the gap to the next integer is at least `1/(2·tick)`, the
rounding error at most `2^-53` of the quotient, and mid-prices are at most `Price::MAX`; `floor_quot_le`
and `ceil_quot_ge` state its two halves separately).
-/
import Bourse.Model.FloatAgents
import Bourse.Lemmas.F64Sym
import Bourse.Lemmas.PriceHelpers

namespace Bourse
namespace FAgents
open F64

theorem floor_zero : (0 : ℚ).floor = 0 := Rat.floor_intCast 0

/-- `x.clamp(0.0, Price::MAX.into()) as Price` is the exact helpers' `clampPrice` of the integer
part; `+∞` gives `Price::MAX`, `−∞` and NaN give 0. -/
theorem toU32_clamp (x : F) : toU32 (clamp x 0 MAXPF) =
    match x with
    | .fin r => Helpers.clampPrice r.floor
    | .pinf => MAXP
    | _ => 0 := by
  cases x with
  | fin r =>
    simp only [clamp, lt, decide_eq_true_eq]
    rcases lt_or_ge r 0 with h0 | h0
    · rw [if_pos h0, Helpers.clampPrice_of_nonpos (Rat.floor_lt_iff.mpr h0).le]
      show (if (0 : ℚ) < 0 then 0 else _) = 0
      rw [if_neg (lt_irrefl _), floor_zero]; rfl
    · rw [if_neg (not_lt.mpr h0)]
      rcases lt_or_ge MAXPF r with h1 | h1
      · rw [if_pos h1, Helpers.clampPrice_of_ge (Rat.le_floor_iff.mpr h1.le)]
        show (if MAXPF < 0 then 0 else if MAXPF.floor > 4294967295 then 4294967295 else MAXPF.floor.toNat) = MAXP
        rw [if_neg (by unfold MAXPF; norm_num), show MAXPF.floor = 4294967295 from Rat.floor_intCast 4294967295]; rfl
      · rw [if_neg (not_lt.mpr h1)]
        show (if r < 0 then 0 else _) = _
        rw [if_neg (not_lt.mpr h0), Helpers.clampPrice, if_neg (not_lt.mpr ((Rat.le_floor_iff (x := 0)).mpr h0))]; rfl
  | pinf => rfl
  | ninf => rfl
  | nan => rfl

theorem toU32_clamp_nonpos {x : F} (h : F64.le x (.fin 0)) : toU32 (clamp x 0 MAXPF) = 0 := by
  rw [toU32_clamp]
  cases x with
  | fin r => exact Helpers.clampPrice_of_nonpos (floor_zero ▸ Rat.floor_monotone (show r ≤ 0 from h))
  | pinf => exact h.elim
  | _ => rfl

theorem toU32_clamp_top {x : F} (h : F64.le (.fin (MAXP : ℚ)) x) : toU32 (clamp x 0 MAXPF) = MAXP := by
  rw [toU32_clamp]
  cases x with
  | fin r => exact Helpers.clampPrice_of_ge (Rat.le_floor_iff.mpr (show ((MAXP : ℤ) : ℚ) ≤ r from h))
  | pinf => rfl
  | _ => exact h.elim

/-- The clamp and cast of a rounded integer is `clampPrice` of the integer: `rnd` is monotone and
fixes 0, `Price::MAX` and every integer between. -/
theorem toU32_clamp_rnd_int (m : ℤ) : toU32 (clamp (rnd (m : ℚ)) 0 MAXPF) = Helpers.clampPrice m := by
  rcases le_or_gt m 0 with h0 | h0
  · rw [toU32_clamp_nonpos (rnd_nonpos (Int.cast_nonpos.mpr h0)), Helpers.clampPrice_of_nonpos h0]
  obtain ⟨n, rfl⟩ := Int.eq_ofNat_of_zero_le h0.le
  rw [Int.cast_natCast]
  rcases le_or_gt n MAXP with h1 | h1
  · rw [rnd_nat n (by unfold MAXP at h1; omega), toU32_clamp]
    show Helpers.clampPrice ((n : ℚ)).floor = _
    rw [show ((n : ℚ)).floor = (n : ℤ) from Rat.floor_intCast n]
  · have hle := rnd_mono (show ((MAXP : ℕ) : ℚ) ≤ (n : ℚ) from Nat.cast_le.mpr h1.le)
    rw [rnd_nat _ (by decide)] at hle
    rw [toU32_clamp_top hle, Helpers.clampPrice_of_ge (Int.ofNat_le.mpr h1.le)]

theorem div_fin_nat (pv : ℚ) {t : ℕ} (ht : 0 < t) : F64.div (.fin pv) (F64.ofNat t) = rnd (pv / (t : ℚ)) := by
  have : (t : ℚ) ≠ 0 := Nat.cast_ne_zero.mpr ht.ne'
  simp only [F64.div, F64.ofNat, if_neg this]

theorem toU32_clamp_mul_int (z : ℤ) (t : ℕ) :
    toU32 (clamp (F64.mul (.fin (z : ℚ)) (F64.ofNat t)) 0 MAXPF) = Helpers.clampPrice (z * t) := by
  rw [← toU32_clamp_rnd_int, Int.cast_mul, Int.cast_natCast]
  rfl

/-- `round_price_down` / `round_price_up` (`R`, `r` = floor or ceiling) once the quotient `x` is known:
its integer part times the tick through `clampPrice`; an infinite quotient gives the end of the range
on its side, NaN gives 0. -/
theorem round_eq (R : F → F) (r : ℚ → ℤ) (hR : ∀ x, R x = match x with | .fin q => .fin (r q : ℚ) | x => x)
    (x : F) {t : ℕ} (ht : 0 < t) :
    toU32 (clamp (F64.mul (R x) (F64.ofNat t)) 0 MAXPF) =
      match x with | .fin q => Helpers.clampPrice (r q * t) | .pinf => MAXP | _ => 0 := by
  have htq : (0 : ℚ) < (t : ℚ) := Nat.cast_pos.mpr ht
  rw [hR]
  cases x with
  | fin q => exact toU32_clamp_mul_int _ _
  | pinf => rw [F64.ofNat, mul_inf_fin (Or.inl rfl) htq]; exact toU32_clamp .pinf
  | ninf => rw [F64.ofNat, mul_inf_fin (Or.inr rfl) htq]; exact toU32_clamp .ninf
  | nan => rfl

theorem roundDown_eq (p : F) {t : ℕ} (ht : 0 < t) : roundDown p (F64.ofNat t) =
    match F64.div p (F64.ofNat t) with | .fin q => Helpers.clampPrice (q.floor * t) | .pinf => MAXP | _ => 0 :=
  round_eq F64.floor Rat.floor (fun x => by cases x <;> rfl) _ ht

theorem roundUp_eq (p : F) {t : ℕ} (ht : 0 < t) : roundUp p (F64.ofNat t) =
    match F64.div p (F64.ofNat t) with | .fin q => Helpers.clampPrice (q.ceil * t) | .pinf => MAXP | _ => 0 :=
  round_eq F64.ceil Rat.ceil (fun x => by cases x <;> rfl) _ ht

/-- The rounded quotient `mid / tick` of a half-integer mid-price `k/2 ≤ Price::MAX` by a `u32` tick
is finite and lies across no integer from the exact quotient (`rnd_frac` with `n = k < 2^53`,
`d = 2·tick ≤ 2^1022`). -/
theorem rnd_quot (k t : ℕ) (ht : 0 < t) (htm : t ≤ 4294967295) (hk : k ≤ 8589934590) :
    ∃ qm, rnd ((k : ℚ) / 2 / (t : ℚ)) = .fin qm ∧
      (qm.floor : ℚ) * (t : ℚ) ≤ (k : ℚ) / 2 ∧ (k : ℚ) / 2 ≤ (qm.ceil : ℚ) * (t : ℚ) := by
  obtain ⟨qm, hq, hf, hc⟩ := rnd_frac (natCast_lt_pow2_53 (n := k) (lt_of_le_of_lt hk (by decide)))
    (Nat.mul_pos two_pos ht)
    ((natCast_lt_pow2_53 (n := 2 * t) (lt_of_le_of_lt (Nat.mul_le_mul_left 2 htm) (by decide))).le.trans
      (pow2_le (by decide)))
  have htq : (0 : ℚ) < (t : ℚ) := Nat.cast_pos.mpr ht
  rw [Nat.cast_mul, Nat.cast_ofNat, ← div_div] at hq hf hc
  exact ⟨qm, hq, (le_div_iff₀ htq).mp hf, (div_le_iff₀ htq).mp hc⟩

/-- The rounded quotient `mid / tick` of a half-integer mid-price below `2^33` never reaches the
next integer above the exact quotient: `⌊rnd(mid/tick)⌋ · tick ≤ mid`. -/
theorem floor_quot_le (k t : ℕ) (ht : 0 < t) (htm : t ≤ 4294967295) (hk : k ≤ 8589934590)
    (qm : ℚ) (hq : rnd ((k : ℚ) / 2 / (t : ℚ)) = .fin qm) : (qm.floor : ℚ) * (t : ℚ) ≤ (k : ℚ) / 2 := by
  obtain ⟨y, hy, hf, _⟩ := rnd_quot k t ht htm hk
  cases hy.symm.trans hq; exact hf

theorem ceil_quot_ge (k t : ℕ) (ht : 0 < t) (htm : t ≤ 4294967295) (hk : k ≤ 8589934590)
    (qm : ℚ) (hq : rnd ((k : ℚ) / 2 / (t : ℚ)) = .fin qm) : (k : ℚ) / 2 ≤ (qm.ceil : ℚ) * (t : ℚ) := by
  obtain ⟨y, hy, _, hc⟩ := rnd_quot k t ht htm hk
  cases hy.symm.trans hq; exact hc

theorem half_nonneg (k : ℕ) : (0 : ℚ) ≤ (k : ℚ) / 2 := div_nonneg (Nat.cast_nonneg k) zero_le_two

theorem mid_room {k t : ℕ} (hk : k + 2 * t ≤ 8589934590) : (k : ℚ) / 2 + (t : ℚ) ≤ (MAXP : ℚ) := by
  rw [div_add' _ _ _ two_ne_zero, div_le_iff₀ two_pos]
  exact_mod_cast (show k + t * 2 ≤ MAXP * 2 by unfold MAXP; omega)

theorem zero_valid (k t : ℕ) : (0 : ℕ) % t = 0 ∧ ((0 : ℕ) : ℚ) ≤ (k : ℚ) / 2 :=
  ⟨Nat.zero_mod _, by rw [Nat.cast_zero]; exact half_nonneg k⟩

/-- **`round_price_down` in `f64`**: for every value `p` at or below a half-integer mid-price
`k/2 ≤ Price::MAX` the result is a multiple of the tick, at or below the mid-price. -/
theorem roundDown_valid (k t : ℕ) (ht : 0 < t) (htm : t ≤ 4294967295) (hk : k ≤ 8589934590)
    (p : F) (hp : F64.le p (.fin ((k : ℚ) / 2))) :
    roundDown p (F64.ofNat t) % t = 0 ∧ (roundDown p (F64.ofNat t) : ℚ) ≤ (k : ℚ) / 2 := by
  cases p with
  | nan => exact hp.elim
  | pinf => exact hp.elim
  | ninf =>
    rw [roundDown_eq _ ht, F64.ofNat, div_inf_fin (Or.inr rfl) (Nat.cast_pos.mpr ht)]
    exact zero_valid k t
  | fin pv =>
    have htq : (0 : ℚ) < (t : ℚ) := Nat.cast_pos.mpr ht
    obtain ⟨qm, hqm, hf, _⟩ := rnd_quot k t ht htm hk
    have hmono := rnd_mono (div_le_div_of_nonneg_right (show pv ≤ (k : ℚ) / 2 from hp) htq.le)
    rw [hqm] at hmono
    rw [roundDown_eq _ ht, div_fin_nat pv ht]
    generalize rnd (pv / (t : ℚ)) = r at hmono ⊢
    cases r with
    | nan => exact hmono.elim
    | pinf => exact hmono.elim
    | ninf => exact zero_valid k t
    | fin qv =>
      refine Helpers.clampPrice_mul_le _ t (half_nonneg k)
        ((le_add_of_nonneg_right (Nat.cast_nonneg 0)).trans (mid_room (t := 0) hk)) ?_
      rw [Int.cast_mul, Int.cast_natCast]
      exact (mul_le_mul_of_nonneg_right (Int.cast_le.mpr (Rat.floor_monotone hmono)) htq.le).trans hf

theorem abs_cases (d : F) : d = .nan ∨ F64.abs d = .pinf ∨ ∃ a : ℚ, 0 ≤ a ∧ F64.abs d = .fin a := by
  cases d with
  | nan => exact Or.inl rfl
  | pinf => exact Or.inr (Or.inl rfl)
  | ninf => exact Or.inr (Or.inl rfl)
  | fin r =>
    refine Or.inr (Or.inr ?_)
    by_cases h : r < 0
    · exact ⟨-r, (neg_pos.mpr h).le, by simp only [F64.abs, if_pos h]⟩
    · exact ⟨r, not_lt.mp h, by simp only [F64.abs, if_neg h]⟩

/-- **Buy quotes in `f64`** (`place_buy_limit_order`, `place_buy_limit_order_market`): for every
sample of the price distribution — finite of either sign, infinite, even NaN —, every tick size and
every observed half-integer mid-price in `[0, Price::MAX]`, the quoted price is a multiple of the
tick and at or below the mid-price, in correctly rounded binary64 arithmetic. -/
theorem buyPrice_valid (k t : ℕ) (ht : 0 < t) (htm : t ≤ 4294967295) (hk : k ≤ 8589934590) (d : F) :
    buyPrice (.fin ((k : ℚ) / 2)) d t % t = 0 ∧ (buyPrice (.fin ((k : ℚ) / 2)) d t : ℚ) ≤ (k : ℚ) / 2 := by
  unfold buyPrice
  rcases abs_cases d with rfl | h | ⟨a, ha, h⟩
  · -- NaN stays NaN through `−` and `÷`
    rw [roundDown_eq _ ht]
    exact zero_valid k t
  · rw [h]
    exact roundDown_valid k t ht htm hk _ trivial
  · rw [h, show F64.sub (.fin ((k : ℚ) / 2)) (.fin a) = rnd ((k : ℚ) / 2 + -a) from rfl]
    refine roundDown_valid k t ht htm hk _ ?_
    have := rnd_mono (add_le_of_nonpos_right (a := (k : ℚ) / 2) (neg_nonpos.mpr ha))
    rw [rnd_half k (by omega)] at this
    exact this

/-- The repaired price `P − P % t` for `P = Price::MAX` is on the grid and within a tick of the top. -/
theorem top_repair (k t : ℕ) (ht : 0 < t) (hk : k + 2 * t ≤ 8589934590) :
    (4294967295 - 4294967295 % t) % t = 0 ∧ (k : ℚ) / 2 ≤ ((4294967295 - 4294967295 % t : ℕ) : ℚ) :=
  ⟨Helpers.sub_mod_mod _ _, Helpers.le_maxp_repair ht (mid_room hk)⟩

/-- **`round_price_up` followed by the grid repair, in `f64`**: for every value `p` at or above a
half-integer mid-price `k/2` that is at least one tick below `Price::MAX`, the repaired price is a
multiple of the tick and at or above the mid-price. -/
theorem roundUp_valid (k t : ℕ) (ht : 0 < t) (htm : t ≤ 4294967295) (hk : k + 2 * t ≤ 8589934590)
    (p : F) (hp : F64.le (.fin ((k : ℚ) / 2)) p) :
    (roundUp p (F64.ofNat t) - roundUp p (F64.ofNat t) % t) % t = 0 ∧
    (k : ℚ) / 2 ≤ ((roundUp p (F64.ofNat t) - roundUp p (F64.ofNat t) % t : ℕ) : ℚ) := by
  cases p with
  | nan => exact hp.elim
  | ninf => exact hp.elim
  | pinf =>
    rw [roundUp_eq _ ht, F64.ofNat, div_inf_fin (Or.inl rfl) (Nat.cast_pos.mpr ht)]
    exact top_repair k t ht hk
  | fin pv =>
    have htq : (0 : ℚ) < (t : ℚ) := Nat.cast_pos.mpr ht
    obtain ⟨qm, hqm, _, hc⟩ := rnd_quot k t ht htm (by omega)
    have hmono := rnd_mono (div_le_div_of_nonneg_right (show (k : ℚ) / 2 ≤ pv from hp) htq.le)
    rw [hqm] at hmono
    rw [roundUp_eq _ ht, div_fin_nat pv ht]
    generalize rnd (pv / (t : ℚ)) = r at hmono ⊢
    cases r with
    | nan => exact hmono.elim
    | ninf => exact hmono.elim
    | pinf => exact top_repair k t ht hk
    | fin qv =>
      refine ⟨Helpers.sub_mod_mod _ _, Helpers.le_clampPrice_mul _ t ht (half_nonneg k) (mid_room hk) ?_⟩
      rw [Int.cast_mul, Int.cast_natCast]
      exact hc.trans (mul_le_mul_of_nonneg_right (Int.cast_le.mpr (ceil_le_ceil hmono)) htq.le)

/-- **Sell quotes in `f64`** (`place_sell_limit_order`, `place_sell_limit_order_market`): for every
non-NaN sample of the price distribution, every tick size and every observed half-integer mid-price
at least one tick below `Price::MAX`, the quoted price is a multiple of the tick and at or above the
mid-price, in correctly rounded binary64 arithmetic. -/
theorem sellPrice_valid (k t : ℕ) (ht : 0 < t) (htm : t ≤ 4294967295) (hk : k + 2 * t ≤ 8589934590)
    (d : F) (hd : d ≠ .nan) :
    sellPrice (.fin ((k : ℚ) / 2)) d t % t = 0 ∧ (k : ℚ) / 2 ≤ (sellPrice (.fin ((k : ℚ) / 2)) d t : ℚ) := by
  unfold sellPrice
  simp only []
  rcases abs_cases d with h | h | ⟨a, ha, h⟩
  · exact absurd h hd
  · rw [h, show F64.add (.fin ((k : ℚ) / 2)) .pinf = .pinf from rfl]
    exact roundUp_valid k t ht htm hk _ trivial
  · rw [h, show F64.add (.fin ((k : ℚ) / 2)) (.fin a) = rnd ((k : ℚ) / 2 + a) from rfl]
    refine roundUp_valid k t ht htm hk _ ?_
    have := rnd_mono (le_add_of_nonneg_right (a := (k : ℚ) / 2) ha)
    rw [rnd_half k (by omega)] at this
    exact this

/-- The sell price is on the grid whatever the sample is (NaN included). -/
theorem sellPrice_grid (mid d : F) (t : ℕ) : sellPrice mid d t % t = 0 :=
  Helpers.sub_mod_mod _ _

end FAgents
end Bourse

/-
The field encoding of a snapshot decodes back to the snapshot (`snapOf (snapJ s) = some s`) whenever
every number fits the Rust type of its field; snapshot values need no escaping (`WF2`, what reading
back asks for) and hence contain no quote (`WF`, what rejecting truncated texts asks for); so the
text `save_json` writes decodes to the snapshot that was saved.
-/
import Bourse.Lemmas.JsonRoundTrip

namespace Bourse
namespace Json

/-- The numeric fields fit their Rust types (`u32` / `u64` / `usize`). -/
def OrderFits (o : Order) : Prop :=
  o.arr ≤ U64 ∧ o.endt ≤ U64 ∧ o.vol ≤ U32 ∧ o.svol ≤ U32 ∧ o.price ≤ U32 ∧ o.trader ≤ U32 ∧ o.id ≤ U64

def EntryFits (e : Entry) : Prop := OrderFits e.order ∧ e.key.pk ≤ U32 ∧ e.key.st ≤ U64

def TradeFits (t : Trade) : Prop :=
  t.t ≤ U64 ∧ t.price ≤ U32 ∧ t.vol ≤ U32 ∧ t.active ≤ U64 ∧ t.passive ≤ U64

def SnapFits (s : Snap) : Prop :=
  s.t ≤ U64 ∧ s.tick ≤ U32 ∧ s.tradeVol ≤ U32 ∧ s.stamp ≤ U64 ∧
  (∀ e ∈ s.orders, EntryFits e) ∧ (∀ t ∈ s.trades, TradeFits t)

instance (o : Order) : Decidable (OrderFits o) := by unfold OrderFits; infer_instance
instance (e : Entry) : Decidable (EntryFits e) := by unfold EntryFits; infer_instance
instance (t : Trade) : Decidable (TradeFits t) := by unfold TradeFits; infer_instance
instance (s : Snap) : Decidable (SnapFits s) := by unfold SnapFits; infer_instance

theorem sideOf_sideJ (sd : Side) : sideOf (sideJ sd) = some sd := by cases sd <;> decide +kernel
theorem statusOf_statusJ (st : Status) : statusOf (statusJ st) = some st := by cases st <;> decide +kernel
theorem numLe_num {n b : Nat} (h : n ≤ b) : numLe b (.num n) = some n := if_pos h

/-! `field` and the `queue_stamp` case of `snapOf` both filter the members by name. On a written object
the filter is computed member by member, and names are compared as `String` literals: unfolding
`lit` to compare character lists is far dearer to check. The miss hypothesis has the shape
`String.reduceEq` leaves behind, `("a" = "b") = False`; as `k ≠ name` or `(k == name) = false` it is
not discharged by the simproc but by evaluation. -/

theorem filter_name_hit (name : String) (v : J) (ms : List (List Char × J)) :
    List.filter (fun m => m.1 == lit name) ((lit name, v) :: ms) =
      (lit name, v) :: List.filter (fun m => m.1 == lit name) ms :=
  List.filter_cons_of_pos (beq_self_eq_true _)

theorem filter_name_miss {k name : String} (h : (k = name) = False) (v : J) (ms : List (List Char × J)) :
    List.filter (fun m => m.1 == lit name) ((lit k, v) :: ms) = List.filter (fun m => m.1 == lit name) ms :=
  List.filter_cons_of_neg fun hk => h ▸ String.toList_inj.mp (beq_iff_eq.mp hk)

/-- `Option.bind_some` with a proof term. That one holds by `rfl`, so `simp` records nothing for the
step and the kernel re-runs the decoder on the written object to see that it was sound. -/
theorem bind_some_eq {α β} (a : α) (f : α → Option β) : (some a).bind f = f a := by
  rw [Option.bind_some]

theorem listOf_map {α} {f : α → J} {g : J → Option α} {l : List α} (h : ∀ a ∈ l, g (f a) = some a) :
    listOf g (.arr (l.map f)) = some l := by
  rw [listOf]
  induction l with
  | nil => rfl
  | cons a l ih =>
    rw [List.map_cons, List.mapM_cons, h a List.mem_cons_self, ih fun x hx => h x (List.mem_cons_of_mem _ hx)]
    rfl

theorem orderOf_orderJ (o : Order) (h : OrderFits o) : orderOf (orderJ o) = some o := by
  obtain ⟨h1, h2, h3, h4, h5, h6, h7⟩ := h
  simp only [orderOf, orderJ, field, filter_name_hit, filter_name_miss, String.reduceEq,
    List.filter_nil, Option.bind_eq_bind, bind_some_eq, sideOf_sideJ, statusOf_statusJ,
    numLe_num h1, numLe_num h2, numLe_num h3, numLe_num h4, numLe_num h5, numLe_num h6, numLe_num h7]
  rfl

theorem keyOf_keyJ (k : Key) (h1 : k.pk ≤ U32) (h2 : k.st ≤ U64) : keyOf (keyJ k) = some k := by
  simp only [keyOf, keyJ, Option.bind_eq_bind, bind_some_eq, sideOf_sideJ, numLe_num h1, numLe_num h2]
  rfl

theorem entryOf_entryJ (e : Entry) (h : EntryFits e) : entryOf (entryJ e) = some e := by
  simp only [entryOf, entryJ, field, filter_name_hit, filter_name_miss, String.reduceEq,
    List.filter_nil, Option.bind_eq_bind, bind_some_eq, orderOf_orderJ e.order h.1, keyOf_keyJ e.key h.2.1 h.2.2]
  rfl

theorem tradeOf_tradeJ (t : Trade) (h : TradeFits t) : tradeOf (tradeJ t) = some t := by
  obtain ⟨h1, h2, h3, h4, h5⟩ := h
  simp only [tradeOf, tradeJ, field, filter_name_hit, filter_name_miss, String.reduceEq,
    List.filter_nil, Option.bind_eq_bind, bind_some_eq, sideOf_sideJ,
    numLe_num h1, numLe_num h2, numLe_num h3, numLe_num h4, numLe_num h5]
  rfl

theorem snapOf_snapJ (s : Snap) (h : SnapFits s) : snapOf (snapJ s) = some s := by
  obtain ⟨h1, h2, h3, h4, h5, h6⟩ := h
  simp only [snapOf, snapJ, field, filter_name_hit, filter_name_miss, String.reduceEq,
    List.filter_nil, Option.bind_eq_bind, bind_some_eq, boolOf,
    numLe_num h1, numLe_num h2, numLe_num h3, numLe_num h4,
    listOf_map fun e he => entryOf_entryJ e (h5 e he), listOf_map fun t ht => tradeOf_tradeJ t (h6 t ht)]
  rfl

theorem sideJ_wf2 (sd : Side) : (sideJ sd).WF2 := by cases sd <;> simp [sideJ, J.WF2] <;> decide +kernel
theorem statusJ_wf2 (st : Status) : (statusJ st).WF2 := by cases st <;> simp [statusJ, J.WF2] <;> decide +kernel

theorem entryJ_wf2 (e : Entry) : (entryJ e).WF2 := by
  have h1 := sideJ_wf2 e.order.side
  have h2 := statusJ_wf2 e.order.status
  have h3 := sideJ_wf2 e.key.side
  simp only [entryJ, orderJ, keyJ, J.WF2, WF2Members, WF2List, and_true, h1, h2, h3, true_and]
  decide +kernel

theorem tradeJ_wf2 (t : Trade) : (tradeJ t).WF2 := by
  have h1 := sideJ_wf2 t.side
  simp only [tradeJ, J.WF2, WF2Members, and_true, h1, true_and]
  decide +kernel

theorem wf2List_map {α} (f : α → J) (hf : ∀ a, (f a).WF2) (l : List α) : WF2List (l.map f) := by
  induction l with
  | nil => simp [WF2List]
  | cons a l ih => simp only [List.map_cons, WF2List]; exact ⟨hf a, ih⟩

theorem snapJ_wf2 (s : Snap) : (snapJ s).WF2 := by
  have h1 := wf2List_map entryJ entryJ_wf2 s.orders
  have h2 := wf2List_map tradeJ tradeJ_wf2 s.trades
  simp only [snapJ, J.WF2, WF2Members, and_true, h1, h2, true_and]
  decide +kernel

/-- **The text that was written loads back to the snapshot that was saved** (either writer). -/
theorem decode_saveText (b : Book) (pretty : Bool) (h : SnapFits b.save) :
    (parse (saveText b pretty)).bind snapOf = some b.save := by
  rw [saveText, parse_render pretty _ (snapJ_wf2 _), Option.bind_some, snapOf_snapJ _ h]

theorem marketJ_wf2 (books : List Snap) : (marketJ books).WF2 := by
  have h1 := wf2List_map snapJ snapJ_wf2 books
  simp only [marketJ, J.WF2, WF2Members, and_true, h1]
  decide +kernel

theorem marketOf_marketJ (snaps : List Snap) (h : ∀ s ∈ snaps, SnapFits s) :
    marketOf snaps.length (marketJ snaps) = some snaps := by
  simp only [marketOf, marketJ, field, filter_name_hit, List.filter_nil, Option.bind_eq_bind, bind_some_eq,
    listOf_map fun s hs => snapOf_snapJ s (h s hs), if_true]
  rfl

end Json
end Bourse

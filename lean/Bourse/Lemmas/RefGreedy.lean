/-
Placing an order on the reference engine, in closed form (for every state of the implementation
model that satisfies the invariant: `place_greedy` in `RefTransfer`): the trades are the greedy allocation of the order's volume over ALL resting orders of the
opposite side that satisfy its limit, in queue order (best price first, earliest queued first within
a price), each at the resting order's price.
-/
import Bourse.Lemmas.RefMatch
import Bourse.Lemmas.RefStepCases

namespace Bourse
namespace Ref

/-- **An arriving order, in closed form** (`enter` is the one function behind placement and behind
re-pricing modifications): with trading enabled and the opposite queue duplicate-free, price-sorted and
made of existing ids, the new trades are the greedy allocation over every admissible opposite resting
order in queue order, and the order keeps the rest. -/
theorem enter_closed (s : RState) (agg : Order) (market : Bool) (htr : s.trading = true)
    (hnd : (s.queue agg.side.opp).Nodup) (hval : ∀ j ∈ s.queue agg.side.opp, j < s.orders.length)
    (hs : (s.queue agg.side.opp).Pairwise (fun i j => ahead agg.side.opp (priceOf s.orders i) (priceOf s.orders j) = true)) :
    (enter s agg market).1.trades = s.trades ++
      (((s.queue agg.side.opp).filter fun j => admits agg.side agg.price (priceOf s.orders j)).zip
        (alloc agg.vol (((s.queue agg.side.opp).filter fun j => admits agg.side agg.price (priceOf s.orders j)).map (volOf s.orders)))).map
        (fun x => mkTrade s.t (orderAt s.orders x.1) agg.id x.2) ∧
    (enter s agg market).2.vol = agg.vol -
      (alloc agg.vol (((s.queue agg.side.opp).filter fun j => admits agg.side agg.price (priceOf s.orders j)).map (volOf s.orders))).sum := by
  have ho' := matchQ_outcome s.t (s.queue agg.side.opp) ⟨s.orders, s.trades, s.tradeVol, agg⟩ hnd hval
  have hpre := admissible_prefix_is_all s.orders agg.side agg.price (s.queue agg.side.opp) hs
  refine ⟨?_, ?_⟩
  · rw [(enter_orders s agg market).2, matchPhase_trades, if_pos htr, ho'.trades]
    simp only [hpre]
  · obtain ⟨st, e, h⟩ := enter_snd_shape s agg market
    rw [h]
    show (matchPhase s agg).2.vol = _
    rw [matchPhase_on htr, ho'.aggVol]
    simp only [hpre]

theorem enqueue_congr (os os' : List Order) (sd : Side) (q : List Nat) (id price : Nat)
    (h : ∀ i, priceOf os' i = priceOf os i) : enqueue os' sd q id price = enqueue os sd q id price := by
  unfold enqueue
  have : (fun j => ahead sd (priceOf os' j) price) = (fun j => ahead sd (priceOf os j) price) := by
    funext j; rw [h j]
  rw [this]

/-- **What becomes of the arriving order itself** (second sentence of C01): nothing left — Filled, ended now, not queued;
something left of a market order — discarded (Cancelled, ended now, not queued); something left of a limit order —
it rests: its own side's queue becomes `enqueue … id price`, i.e. behind every resting order with a better or
equal price and ahead of the rest (`ref_enqueue_position`). -/
theorem enter_rest (s : RState) (agg : Order) (market : Bool) (htr : s.trading = true)
    (hnd : (s.queue agg.side.opp).Nodup) (hval : ∀ j ∈ s.queue agg.side.opp, j < s.orders.length)
    (hV : 0 < agg.vol) (hst : agg.status ≠ .filled) :
    let r := enter s agg market
    (r.2.vol = 0 → r.2.status = .filled ∧ r.2.endt = s.t ∧ r.1.queue agg.side = s.queue agg.side) ∧
    (0 < r.2.vol → market = true → r.2.status = .cancelled ∧ r.2.endt = s.t ∧ r.1.queue agg.side = s.queue agg.side) ∧
    (0 < r.2.vol → market = false → r.2.status = agg.status ∧ r.2.endt = agg.endt ∧
      r.1.queue agg.side = enqueue s.orders agg.side (s.queue agg.side) agg.id agg.price) ∧
    r.2.side = agg.side ∧ r.2.price = agg.price ∧ r.2.id = agg.id := by
  intro r
  have ho := matchQ_outcome s.t (s.queue agg.side.opp) ⟨s.orders, s.trades, s.tradeVol, agg⟩ hnd hval
  obtain ⟨hstat, hend⟩ := matchQ_agg_status s.t (s.queue agg.side.opp) ⟨s.orders, s.trades, s.tradeVol, agg⟩ hval hV
  obtain ⟨hside, hprice, hid, _, _, _⟩ := ho.aggSame
  have he : r = _ := enter_of_loop (market := market) htr rfl
  -- the queue of the order's own side is not the one the loop walked
  have hown : ∀ m, (afterLoop s agg.side m).queue agg.side = s.queue agg.side := fun m => by
    rw [afterLoop_queue, if_neg (side_ne_opp _)]
  by_cases hz : (matchQ s.t (s.queue agg.side.opp) ⟨s.orders, s.trades, s.tradeVol, agg⟩).2.agg.vol = 0
  · rw [if_pos hz] at hstat hend
    rw [if_pos hstat] at he
    rw [he]
    exact ⟨fun _ => ⟨hstat, hend, hown _⟩, fun h => absurd hz (Nat.ne_of_gt h), fun h => absurd hz (Nat.ne_of_gt h),
      hside, hprice, hid⟩
  · rw [if_neg hz] at hstat hend
    rw [if_neg (by rw [hstat]; exact hst)] at he
    cases market with
    | true =>
      rw [if_pos rfl] at he
      rw [he]
      exact ⟨fun h => absurd h hz, fun _ _ => ⟨rfl, rfl, hown _⟩, fun _ h => (by cases h), hside, hprice, hid⟩
    | false =>
      rw [if_neg (by simp)] at he
      rw [he]
      refine ⟨fun h => absurd h hz, fun _ h => (by cases h), fun _ _ => ⟨hstat, hend, ?_⟩, hside, hprice, hid⟩
      show ((afterLoop s agg.side _).setQueue agg.side _).queue agg.side = _
      rw [queue_setQueue, if_pos rfl, hid, hprice]
      -- matching changes no price
      exact enqueue_congr _ _ _ _ _ _ fun i => by rw [ho.orders]; exact fold_priceOf _ _ _ _

/-- **A re-pricing (or volume-increasing) modification, in closed form**: the order leaves its own
queue and arrives again with its new price and volume; what it executes is the same greedy allocation. -/
theorem modify_closed (s : RState) (id : Nat) (o : Order) (np nv : Option Nat) (ho : s.orders[id]? = some o)
    (hact : o.status = .active) (hgrid : Book.offGrid s.tick np = false)
    (hre : ¬ (np = none ∧ nv = none)) (hnotred : (np.isNone && decide (nv.getD o.vol < o.vol)) = false)
    (htr : s.trading = true) (hnd : (s.queue o.side.opp).Nodup) (hval : ∀ j ∈ s.queue o.side.opp, j < s.orders.length)
    (hs : (s.queue o.side.opp).Pairwise (fun i j => ahead o.side.opp (priceOf s.orders i) (priceOf s.orders j) = true)) :
    (modify s id np nv).trades = s.trades ++
      (((s.queue o.side.opp).filter fun j => admits o.side (np.getD o.price) (priceOf s.orders j)).zip
        (alloc (nv.getD o.vol) (((s.queue o.side.opp).filter fun j => admits o.side (np.getD o.price) (priceOf s.orders j)).map
          (volOf s.orders)))).map
        (fun x => mkTrade s.t (orderAt s.orders x.1) o.id x.2) := by
  have hq : (unqueue s o.side id).queue o.side.opp = s.queue o.side.opp := by
    rw [unqueue_queue, if_neg (Book.opp_ne _)]
  have hc := enter_closed (unqueue s o.side id) { o with vol := nv.getD o.vol, price := np.getD o.price } false
    ((unqueue_trading ..).trans htr) (by rw [hq]; exact hnd) (by rw [hq, unqueue_orders]; exact hval)
    (by rw [hq, unqueue_orders]; exact hs)
  rw [modify_reenter ho hact hgrid hre hnotred]
  show (enter _ _ false).1.trades = _
  rw [hc.1, hq, unqueue_orders, unqueue_trades, unqueue_t]

theorem place_closed (s : RState) (id : Nat) (o : Order) (ho : s.orders[id]? = some o) (hnew : o.status = .new)
    (htr : s.trading = true) (hnd : (s.queue o.side.opp).Nodup) (hval : ∀ j ∈ s.queue o.side.opp, j < s.orders.length)
    (hs : (s.queue o.side.opp).Pairwise (fun i j => ahead o.side.opp (priceOf s.orders i) (priceOf s.orders j) = true)) :
    (place s id).trades = s.trades ++
      (((s.queue o.side.opp).filter fun j => admits o.side o.price (priceOf s.orders j)).zip
        (alloc o.vol (((s.queue o.side.opp).filter fun j => admits o.side o.price (priceOf s.orders j)).map (volOf s.orders)))).map
        (fun x => mkTrade s.t (orderAt s.orders x.1) o.id x.2) ∧
    ∃ o', (place s id).orders[id]? = some o' ∧
      o'.vol = o.vol - (alloc o.vol (((s.queue o.side.opp).filter fun j => admits o.side o.price (priceOf s.orders j)).map
        (volOf s.orders))).sum := by
  have hc := enter_closed s { o with status := .active, arr := s.t } (Book.isMarket o) htr hnd hval hs
  rw [place_new ho hnew]
  exact ⟨hc.1, _, by rw [enterAt_get (List.getElem?_eq_some_iff.mp ho).1, if_pos rfl], hc.2⟩

theorem place_record (s : RState) (id : Nat) (o : Order) (ho : s.orders[id]? = some o) (hnew : o.status = .new) :
    (place s id).orders[id]? = some (enter s { o with status := .active, arr := s.t } (Book.isMarket o)).2 ∧
    ∀ sd, (place s id).queue sd = (enter s { o with status := .active, arr := s.t } (Book.isMarket o)).1.queue sd := by
  rw [place_new ho hnew]
  exact ⟨by rw [enterAt_get (List.getElem?_eq_some_iff.mp ho).1, if_pos rfl], enterAt_queue _ _ _ _⟩

end Ref

end Bourse

/-
The reference match loop, once: one iteration as a function (`fillSt`), the loop's unfolding in
terms of it, and the two principles through which every other file reasons about `Ref.matchQ`:
`matchQ_induct` (the loop's own case analysis) and `matchQ_lift` (a reflexive, transitive relation
that contains every single fill relates the loop's start and end). Then what follows from them for
every loop, whatever the property: records move by any `FillRel` (`matchQ_rel`; `Filled` is the
strongest), records outside the queue stay (`matchQ_frame`), what the appended trades look like
(`matchQ_trades`), what is left of the queue (`matchQ_suffix`), why the loop stopped (`matchQ_stops`)
and what became of the aggressor's status (`matchQ_agg`).
-/
import Bourse.Spec.Ref

namespace Bourse

theorem getElem?_set_of_some {α : Type} {l : List α} {i0 : Nat} {x0 : α} (h0 : l[i0]? = some x0) (x : α) (i : Nat) :
    (l.set i0 x)[i]? = if i = i0 then some x else l[i]? := by
  by_cases h : i = i0
  · subst h; simp [(List.getElem?_eq_some_iff.mp h0).1]
  · simp [Ne.symm h, h]

/-- Identity fields of an order record (everything but volume, status and end time). -/
def sameIdent (o o' : Order) : Prop :=
  o'.id = o.id ∧ o'.side = o.side ∧ o'.trader = o.trader ∧ o'.arr = o.arr ∧ o'.svol = o.svol ∧ o'.price = o.price

namespace sameIdent
variable {o o' : Order} (h : sameIdent o o')
include h
theorem id : o'.id = o.id := h.1
theorem side : o'.side = o.side := h.2.1
theorem trader : o'.trader = o.trader := h.2.2.1
theorem arr : o'.arr = o.arr := h.2.2.2.1
theorem svol : o'.svol = o.svol := h.2.2.2.2.1
theorem price : o'.price = o.price := h.2.2.2.2.2
end sameIdent

theorem sameIdent.refl (o : Order) : sameIdent o o := ⟨rfl, rfl, rfl, rfl, rfl, rfl⟩

theorem sameIdent.trans {a b c : Order} (h1 : sameIdent a b) (h2 : sameIdent b c) : sameIdent a c :=
  ⟨h2.id.trans h1.id, h2.side.trans h1.side, h2.trader.trans h1.trader, h2.arr.trans h1.arr,
   h2.svol.trans h1.svol, h2.price.trans h1.price⟩

theorem priceOf_of_get {os : List Order} {k : Nat} {o : Order} (h : os[k]? = some o) : Ref.priceOf os k = o.price := by
  simp [Ref.priceOf, h]

theorem priceOf_append {os : List Order} {j : Nat} (hj : j < os.length) (x : Order) :
    Ref.priceOf (os ++ [x]) j = Ref.priceOf os j := by
  simp [Ref.priceOf, List.getElem?_append_left hj]

theorem priceOf_set_same {os : List Order} {id : Nat} {o : Order} (ho : os[id]? = some o) {x : Order}
    (hp : x.price = o.price) (j : Nat) : Ref.priceOf (os.set id x) j = Ref.priceOf os j := by
  by_cases hji : j = id
  · subst hji
    rw [priceOf_of_get ho, priceOf_of_get (o := x) (by simp [(List.getElem?_eq_some_iff.mp ho).1]), hp]
  · simp [Ref.priceOf, Ne.symm hji]

namespace Ref

theorem not_admitted_behind (sd : Side) (limit p0 p : Nat) (h0 : admits sd limit p0 = false)
    (ha : ahead sd.opp p0 p = true) : admits sd limit p = false := by
  cases sd <;> simp only [admits, ahead, Side.opp, decide_eq_false_iff_not, decide_eq_true_eq] at * <;> omega

/-- A record after giving up `f` units at time `t`: Filled (with that end time) once empty. -/
def filledBy (t : Nat) (o : Order) (f : Nat) : Order :=
  if o.vol - f = 0 then { o with vol := o.vol - f, status := .filled, endt := t } else { o with vol := o.vol - f }

/-- The trade record of `f` units between aggressor `aggId` and the resting record `pass`. -/
def mkTrade (t : Nat) (pass : Order) (aggId f : Nat) : Trade :=
  { t := t, side := pass.side, price := pass.price, vol := f, active := aggId, passive := pass.id }

section filledBy
variable (t : Nat) (o : Order) (f : Nat)
@[simp] theorem filledBy_vol : (filledBy t o f).vol = o.vol - f := by unfold filledBy; split <;> rfl
@[simp] theorem filledBy_id : (filledBy t o f).id = o.id := by unfold filledBy; split <;> rfl
@[simp] theorem filledBy_side : (filledBy t o f).side = o.side := by unfold filledBy; split <;> rfl
@[simp] theorem filledBy_price : (filledBy t o f).price = o.price := by unfold filledBy; split <;> rfl
@[simp] theorem filledBy_trader : (filledBy t o f).trader = o.trader := by unfold filledBy; split <;> rfl
@[simp] theorem filledBy_svol : (filledBy t o f).svol = o.svol := by unfold filledBy; split <;> rfl
@[simp] theorem filledBy_arr : (filledBy t o f).arr = o.arr := by unfold filledBy; split <;> rfl

theorem filledBy_status :
    (o.vol ≤ f ∧ (filledBy t o f).status = .filled ∧ (filledBy t o f).endt = t) ∨
    (f < o.vol ∧ (filledBy t o f).status = o.status ∧ (filledBy t o f).endt = o.endt) := by
  unfold filledBy; split
  · exact Or.inl ⟨by omega, rfl, rfl⟩
  · exact Or.inr ⟨by omega, rfl, rfl⟩
end filledBy

/-- One iteration of the loop: the aggressor and the resting record `pass` at index `j` exchange the
smaller of their two volumes. -/
def fillSt (t : Nat) (st : MatchSt) (j : Nat) (pass : Order) : MatchSt :=
  { orders := st.orders.set j (filledBy t pass (min st.agg.vol pass.vol)),
    trades := st.trades ++ [mkTrade t pass st.agg.id (min st.agg.vol pass.vol)],
    tradeVol := st.tradeVol + min st.agg.vol pass.vol,
    agg := filledBy t st.agg (min st.agg.vol pass.vol) }

theorem fillSt_get {t : Nat} {st : MatchSt} {j : Nat} {pass : Order} (h : st.orders[j]? = some pass) (i : Nat) :
    (fillSt t st j pass).orders[i]? =
      if i = j then some (filledBy t pass (min st.agg.vol pass.vol)) else st.orders[i]? :=
  getElem?_set_of_some h _ i

theorem matchQ_cons_stop {t j : Nat} {q : List Nat} {st : MatchSt}
    (h : ∀ pass, st.orders[j]? = some pass →
      st.agg.vol = 0 ∨ admits st.agg.side st.agg.price pass.price = false) :
    matchQ t (j :: q) st = (j :: q, st) := by
  unfold matchQ
  cases hp : st.orders[j]? with
  | none => rfl
  | some pass => rcases h pass hp with h | h <;> simp [h]

theorem matchQ_cons_fill {t j : Nat} {q : List Nat} {st : MatchSt} {pass : Order} (hget : st.orders[j]? = some pass)
    (hV : 0 < st.agg.vol) (had : admits st.agg.side st.agg.price pass.price = true) :
    matchQ t (j :: q) st =
      if pass.vol ≤ st.agg.vol then matchQ t q (fillSt t st j pass) else (j :: q, fillSt t st j pass) := by
  have h : matchQ t (j :: q) st = if (filledBy t pass (min st.agg.vol pass.vol)).vol = 0
      then matchQ t q (fillSt t st j pass) else (j :: q, fillSt t st j pass) := by
    conv => lhs; unfold matchQ
    simp only [hget, hV, decide_true, had, Bool.and_self, ↓reduceIte]
    rfl
  rw [h, filledBy_vol]
  congr 1
  exact propext (by omega)

/-- **The loop's case analysis.** `full` is the only recursive case; its result `r` is abstract. -/
theorem matchQ_induct {t : Nat} {motive : List Nat → MatchSt → List Nat × MatchSt → Prop}
    (nil : ∀ st, motive [] st ([], st))
    (stop : ∀ j q st, (∀ pass, st.orders[j]? = some pass →
        st.agg.vol = 0 ∨ admits st.agg.side st.agg.price pass.price = false) → motive (j :: q) st (j :: q, st))
    (part : ∀ j q st pass, st.orders[j]? = some pass → 0 < st.agg.vol →
        admits st.agg.side st.agg.price pass.price = true → st.agg.vol < pass.vol →
        motive (j :: q) st (j :: q, fillSt t st j pass))
    (full : ∀ j q st pass r, st.orders[j]? = some pass → 0 < st.agg.vol →
        admits st.agg.side st.agg.price pass.price = true → pass.vol ≤ st.agg.vol →
        motive q (fillSt t st j pass) r → motive (j :: q) st r)
    (q : List Nat) (st : MatchSt) : motive q st (matchQ t q st) := by
  induction q generalizing st with
  | nil => exact nil st
  | cons j q ih =>
    by_cases h : ∃ pass, st.orders[j]? = some pass ∧ 0 < st.agg.vol ∧
        admits st.agg.side st.agg.price pass.price = true
    · obtain ⟨pass, hget, hV, had⟩ := h
      rw [matchQ_cons_fill hget hV had]
      split
      · exact full j q st pass _ hget hV had ‹_› (ih _)
      · exact part j q st pass hget hV had (by omega)
    · have hs : ∀ pass, st.orders[j]? = some pass →
          st.agg.vol = 0 ∨ admits st.agg.side st.agg.price pass.price = false := by
        intro pass hp
        cases hadm : admits st.agg.side st.agg.price pass.price
        · exact Or.inr rfl
        · exact Or.inl (Nat.eq_zero_of_not_pos fun hV => h ⟨pass, hp, hV, hadm⟩)
      rw [matchQ_cons_stop hs]
      exact stop j q st hs

/-- **Lifting.** A reflexive, transitive relation on loop states that contains every single fill at a
member of the queue relates the state the loop starts from to the one it returns. -/
theorem matchQ_lift {t : Nat} {R : MatchSt → MatchSt → Prop} (q : List Nat)
    (refl : ∀ st, R st st) (trans : ∀ {a b c}, R a b → R b c → R a c)
    (fill : ∀ st j pass, j ∈ q → st.orders[j]? = some pass → 0 < st.agg.vol →
        admits st.agg.side st.agg.price pass.price = true → R st (fillSt t st j pass))
    (st : MatchSt) : R st (matchQ t q st).2 := by
  suffices h : ∀ q' st, (∀ j ∈ q', j ∈ q) → R st (matchQ t q' st).2 from h q st fun _ h => h
  intro q' st
  refine matchQ_induct (motive := fun q' st r => (∀ j ∈ q', j ∈ q) → R st r.2) ?_ ?_ ?_ ?_ q' st
  · exact fun st _ => refl st
  · exact fun _ _ st _ _ => refl st
  · exact fun j _ st pass hg hV had _ hs => fill st j pass (hs j List.mem_cons_self) hg hV had
  · exact fun j _ st pass _ hg hV had _ ih hs =>
      trans (fill st j pass (hs j List.mem_cons_self) hg hV had) (ih fun i hi => hs i (List.mem_cons_of_mem _ hi))

/-- A relation on order records that the match loop respects. -/
structure FillRel (t : Nat) (P : Order → Order → Prop) : Prop where
  refl : ∀ o, P o o
  trans : ∀ {a b c}, P a b → P b c → P a c
  part : ∀ (o : Order) (v : Nat), P o { o with vol := v }
  full : ∀ (o : Order) (v : Nat), P o { o with vol := v, status := .filled, endt := t }

theorem FillRel.filledBy {t : Nat} {P : Order → Order → Prop} (hP : FillRel t P) (o : Order) (f : Nat) :
    P o (filledBy t o f) := by
  unfold Ref.filledBy; split
  · exact hP.full o _
  · exact hP.part o _

/-- The match loop evolves every record of the table and the aggressor by any `FillRel`, and keeps
the table's length. -/
theorem matchQ_rel {t : Nat} {P : Order → Order → Prop} (hP : FillRel t P) (q : List Nat) (st : MatchSt) :
    (∀ (id : Nat) (o : Order), st.orders[id]? = some o →
        ∃ o', (matchQ t q st).2.orders[id]? = some o' ∧ P o o') ∧
    P st.agg (matchQ t q st).2.agg ∧ (matchQ t q st).2.orders.length = st.orders.length := by
  refine matchQ_lift (R := fun a b => (∀ (id : Nat) (o : Order), a.orders[id]? = some o →
      ∃ o', b.orders[id]? = some o' ∧ P o o') ∧ P a.agg b.agg ∧ b.orders.length = a.orders.length) q ?_ ?_ ?_ st
  · exact fun a => ⟨fun _ o h => ⟨o, h, hP.refl o⟩, hP.refl _, rfl⟩
  · rintro a b c ⟨h1, h2, h3⟩ ⟨g1, g2, g3⟩
    refine ⟨fun id o ho => ?_, hP.trans h2 g2, g3.trans h3⟩
    obtain ⟨o1, ho1, p1⟩ := h1 id o ho
    obtain ⟨o2, ho2, p2⟩ := g1 id o1 ho1
    exact ⟨o2, ho2, hP.trans p1 p2⟩
  · intro a j pass _ hget _ _
    refine ⟨fun id o ho => ?_, hP.filledBy .., by simp [fillSt]⟩
    rw [fillSt_get hget]
    split
    · subst_vars; rw [hget] at ho; cases ho; exact ⟨_, rfl, hP.filledBy ..⟩
    · exact ⟨o, ho, hP.refl o⟩

/-- **What matching does to a record**: everything but volume, status and end time is kept; status
and end time are kept too, or the record is Filled at `t`. The relations the properties use (time
fields, grid clause, lifecycle, trade roles) are weakenings of this one. -/
def Filled (t : Nat) (o o' : Order) : Prop :=
  sameIdent o o' ∧ ((o'.status = o.status ∧ o'.endt = o.endt) ∨ (o'.status = .filled ∧ o'.endt = t))

theorem Filled.refl (t : Nat) (o : Order) : Filled t o o := ⟨sameIdent.refl o, .inl ⟨rfl, rfl⟩⟩

theorem filled_fillRel (t : Nat) : FillRel t (Filled t) where
  refl := Filled.refl t
  trans := by
    rintro a b c ⟨i1, h1⟩ ⟨i2, h2⟩
    refine ⟨i1.trans i2, ?_⟩
    rcases h2 with ⟨hs, he⟩ | h2
    · exact h1.imp (fun h => ⟨hs.trans h.1, he.trans h.2⟩) (fun h => ⟨hs.trans h.1, he.trans h.2⟩)
    · exact .inr h2
  part := fun _ _ => ⟨⟨rfl, rfl, rfl, rfl, rfl, rfl⟩, .inl ⟨rfl, rfl⟩⟩
  full := fun _ _ => ⟨⟨rfl, rfl, rfl, rfl, rfl, rfl⟩, .inr ⟨rfl, rfl⟩⟩

theorem Filled.status {t : Nat} {o o' : Order} (h : Filled t o o') : o'.status = o.status ∨ o'.status = .filled :=
  h.2.imp (·.1) (·.1)

theorem matchQ_frame (t : Nat) (q : List Nat) (st : MatchSt) (i : Nat) (hi : i ∉ q) :
    (matchQ t q st).2.orders[i]? = st.orders[i]? :=
  matchQ_lift (R := fun a b => b.orders[i]? = a.orders[i]?) q (fun _ => rfl) (fun h1 h2 => h2.trans h1)
    (fun _ j _ hj hget _ _ => by rw [fillSt_get hget, if_neg fun h : i = j => hi (h ▸ hj)]) st

/-- **Anatomy of the appended trade records**, in terms of the state the loop started from: each is
stamped `t`, names the aggressor as active, and as passive a queued record, at that record's price and
side, which the aggressor's limit admits. -/
theorem matchQ_trades (t : Nat) (q : List Nat) (st : MatchSt) :
    ∃ new, (matchQ t q st).2.trades = st.trades ++ new ∧ ∀ tr ∈ new, tr.t = t ∧ tr.active = st.agg.id ∧
      ∃ j ∈ q, ∃ o, st.orders[j]? = some o ∧ tr.passive = o.id ∧ tr.price = o.price ∧ tr.side = o.side ∧
        admits st.agg.side st.agg.price o.price = true := by
  -- the relation also says that identities, prices and sides stand still, so that it composes
  refine (matchQ_lift (R := fun a b => (b.agg.id = a.agg.id ∧ b.agg.side = a.agg.side ∧ b.agg.price = a.agg.price) ∧
      (∀ (i : Nat) (o' : Order), b.orders[i]? = some o' → ∃ o, a.orders[i]? = some o ∧ o'.id = o.id ∧ o'.price = o.price ∧ o'.side = o.side) ∧
      ∃ new, b.trades = a.trades ++ new ∧ ∀ tr ∈ new, tr.t = t ∧ tr.active = a.agg.id ∧
        ∃ j ∈ q, ∃ o, a.orders[j]? = some o ∧ tr.passive = o.id ∧ tr.price = o.price ∧ tr.side = o.side ∧
          admits a.agg.side a.agg.price o.price = true) q ?_ ?_ ?_ st).2.2
  · exact fun a => ⟨⟨rfl, rfl, rfl⟩, fun _ o h => ⟨o, h, rfl, rfl, rfl⟩, [], by simp, by simp⟩
  · rintro a b c ⟨⟨a1, a2, a3⟩, ha, n1, e1, h1⟩ ⟨⟨b1, b2, b3⟩, hb, n2, e2, h2⟩
    refine ⟨⟨b1.trans a1, b2.trans a2, b3.trans a3⟩, fun i o'' h => ?_, n1 ++ n2, by rw [e2, e1, List.append_assoc], ?_⟩
    · obtain ⟨o', ho', x1, x2, x3⟩ := hb i o'' h
      obtain ⟨o, ho, y1, y2, y3⟩ := ha i o' ho'
      exact ⟨o, ho, x1.trans y1, x2.trans y2, x3.trans y3⟩
    · intro tr htr
      rcases List.mem_append.mp htr with htr | htr
      · exact h1 tr htr
      · obtain ⟨ht, hact, j, hj, o', ho', z1, z2, z3, z4⟩ := h2 tr htr
        obtain ⟨o, ho, y1, y2, y3⟩ := ha j o' ho'
        exact ⟨ht, hact.trans a1, j, hj, o, ho, z1.trans y1, z2.trans y2, z3.trans y3, by rw [← a2, ← a3, ← y2]; exact z4⟩
  · intro a j pass hj hget _ had
    refine ⟨by simp [fillSt], fun i o' h => ?_, _, rfl, fun tr htr => ?_⟩
    · rw [fillSt_get hget] at h
      split at h
      · subst_vars; cases h; exact ⟨pass, hget, by simp⟩
      · exact ⟨o', h, rfl, rfl, rfl⟩
    · rw [List.mem_singleton.mp htr]
      exact ⟨rfl, rfl, j, hj, pass, hget, rfl, rfl, rfl, had⟩

theorem matchQ_suffix (t : Nat) (q : List Nat) (st : MatchSt) : ∃ pre, q = pre ++ (matchQ t q st).1 := by
  refine matchQ_induct (motive := fun q _ r => ∃ pre, q = pre ++ r.1) ?_ ?_ ?_ ?_ q st
  · exact fun _ => ⟨[], rfl⟩
  · exact fun _ _ _ _ => ⟨[], rfl⟩
  · exact fun _ _ _ _ _ _ _ _ => ⟨[], rfl⟩
  · exact fun j _ _ _ _ _ _ _ _ ⟨pre, h⟩ => ⟨j :: pre, by rw [h, List.cons_append, ← h]⟩

/-- **Why the loop stops**, read off the state it returns (`Bourse.matchQ_stops` in `Uncrossed` is the
same read against the state it started from), when every queued id names a record (a missing
record would stop it too): the aggressor is exhausted, or the queue is, or the head of what is left is not admitted by the
aggressor's limit. -/
theorem matchQ_stops (t : Nat) (q : List Nat) (st : MatchSt) (hv : ∀ j ∈ q, j < st.orders.length) :
    (matchQ t q st).2.agg.vol = 0 ∨ (matchQ t q st).1 = [] ∨
    ∃ j, (matchQ t q st).1.head? = some j ∧
      admits (matchQ t q st).2.agg.side (matchQ t q st).2.agg.price (priceOf (matchQ t q st).2.orders j) = false := by
  revert hv
  refine matchQ_induct (motive := fun q st r => (∀ j ∈ q, j < st.orders.length) → r.2.agg.vol = 0 ∨ r.1 = [] ∨
    ∃ j, r.1.head? = some j ∧ admits r.2.agg.side r.2.agg.price (priceOf r.2.orders j) = false) ?_ ?_ ?_ ?_ q st
  · exact fun _ _ => Or.inr (Or.inl rfl)
  · intro j q st h hv
    have hget := List.getElem?_eq_getElem (hv j List.mem_cons_self)
    rcases h _ hget with h | h
    · exact Or.inl h
    · exact Or.inr (Or.inr ⟨j, rfl, by simpa [priceOf, hget] using h⟩)
  · exact fun _ _ _ _ _ _ _ hlt _ => Or.inl (by simp only [fillSt, filledBy_vol]; omega)
  · exact fun _ _ _ _ _ _ _ _ _ ih hv => ih fun i hi => by
      simpa [fillSt] using hv i (List.mem_cons_of_mem _ hi)

theorem matchQ_agg (t : Nat) (q : List Nat) (st : MatchSt) :
    (st.agg.vol = 0 → (matchQ t q st).2.agg = st.agg) ∧
    (0 < st.agg.vol →
      (matchQ t q st).2.agg.status = (if (matchQ t q st).2.agg.vol = 0 then .filled else st.agg.status) ∧
      (matchQ t q st).2.agg.endt = (if (matchQ t q st).2.agg.vol = 0 then t else st.agg.endt)) := by
  refine matchQ_lift (R := fun a b => (a.agg.vol = 0 → b.agg = a.agg) ∧ (0 < a.agg.vol →
      b.agg.status = (if b.agg.vol = 0 then .filled else a.agg.status) ∧
      b.agg.endt = (if b.agg.vol = 0 then t else a.agg.endt))) q ?_ ?_ ?_ st
  · exact fun a => ⟨fun _ => rfl, fun h => by simp [Nat.ne_of_gt h]⟩
  · rintro a b c ⟨a0, a1⟩ ⟨b0, b1⟩
    refine ⟨fun h => by rw [b0 (by rw [a0 h]; exact h), a0 h], fun h => ?_⟩
    by_cases hb : b.agg.vol = 0
    · rw [b0 hb]; exact a1 h
    · have := b1 (Nat.pos_of_ne_zero hb)
      have ha := a1 h
      simp only [hb, if_false] at ha
      rw [← ha.1, ← ha.2]; exact this
  · intro a j pass _ _ hV _
    refine ⟨fun h => by omega, fun _ => ?_⟩
    simp only [fillSt, filledBy_vol]
    rcases filledBy_status t a.agg (min a.agg.vol pass.vol) with ⟨h, h1, h2⟩ | ⟨h, h1, h2⟩
    · rw [if_pos (by omega), if_pos (by omega)]; exact ⟨h1, h2⟩
    · rw [if_neg (by omega), if_neg (by omega)]; exact ⟨h1, h2⟩

end Ref
end Bourse

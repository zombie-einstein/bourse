/-
C12, last clause: "the published per-level data accounts for all resting volume within its range".

A statement about the recomputation oracle `Spec.Views` alone: when every resting price is a multiple
of the tick size (and within the price range), the volumes of the first `n` levels of a side add up
to exactly the resting volume of that side priced within `n` ticks of the touch — nothing in range is
missed (a level query that stepped by anything but the tick, or started anywhere but the touch, would
miss volume) and nothing is counted twice.
-/
import Bourse.Spec.Views

namespace Bourse
namespace Views

def fsum (l : List Order) (p : Order → Bool) : Nat := ((l.filter p).map (·.vol)).sum

theorem fsum_nil (p : Order → Bool) : fsum [] p = 0 := rfl

theorem fsum_cons (o : Order) (l : List Order) (p : Order → Bool) :
    fsum (o :: l) p = (if p o then o.vol else 0) + fsum l p := by
  unfold fsum
  by_cases h : p o <;> simp [h]

theorem fsum_congr {l : List Order} {p q : Order → Bool} (h : ∀ o ∈ l, p o = q o) : fsum l p = fsum l q := by
  rw [fsum, List.filter_congr h, fsum]

theorem fsum_false {l : List Order} {p : Order → Bool} (h : ∀ o ∈ l, p o = false) : fsum l p = 0 := by
  rw [fsum, List.filter_eq_nil_iff.mpr fun o ho => by simp [h o ho]]
  rfl

theorem fsum_split {l : List Order} {p q r : Order → Bool} (h : ∀ o ∈ l, r o = (p o || q o))
    (hd : ∀ o ∈ l, ¬ (p o = true ∧ q o = true)) : fsum l r = fsum l p + fsum l q := by
  induction l with
  | nil => rfl
  | cons o l ih =>
    rw [fsum_cons, fsum_cons, fsum_cons, ih (fun x hx => h x (List.mem_cons_of_mem _ hx))
      (fun x hx => hd x (List.mem_cons_of_mem _ hx)), h o List.mem_cons_self]
    have := hd o List.mem_cons_self
    cases hp : p o <;> cases hq : q o <;> simp [hp, hq] at this ⊢ <;> omega

/-- Telescoping: if `P 0 ⊆ P 1 ⊆ …` starts empty on `l` and `f i` is the volume in the band `P (i+1) \ P i`,
the first `n` bands add up to the volume in `P n`. -/
theorem fsum_bands (l : List Order) (P : Nat → Order → Bool) (h0 : ∀ o ∈ l, P 0 o = false)
    (hmono : ∀ i, ∀ o ∈ l, P i o = true → P (i + 1) o = true) (f : Nat → Nat)
    (hf : ∀ i, f i = fsum l (fun o => !P i o && P (i + 1) o)) (n : Nat) :
    ((List.range n).map f).sum = fsum l (P n) := by
  induction n with
  | zero => exact (fsum_false h0).symm
  | succ n ih =>
    rw [List.range_succ, List.map_append, List.sum_append, ih]
    simp only [List.map_cons, List.map_nil, List.sum_cons, List.sum_nil, Nat.add_zero, hf]
    symm
    apply fsum_split
    · intro o ho
      cases h1 : P n o
      · simp
      · simpa using hmono n o ho h1
    · intro o _ ⟨h1, h2⟩
      simp [h1] at h2

theorem atPrice_fst (os : List Order) (sd : Side) (p : Nat) :
    (atPrice os sd p).1 = fsum (resting os sd) (fun o => decide (o.price = p)) := rfl

theorem foldl_min_le (l : List Order) (init : Nat) :
    l.foldl (fun m o => min m o.price) init ≤ init ∧ ∀ o ∈ l, l.foldl (fun m o => min m o.price) init ≤ o.price := by
  induction l generalizing init with
  | nil => exact ⟨Nat.le_refl _, fun o h => nomatch h⟩
  | cons a l ih =>
    obtain ⟨h1, h2⟩ := ih (min init a.price)
    refine ⟨Nat.le_trans h1 (Nat.min_le_left _ _), fun o ho => ?_⟩
    rcases List.mem_cons.mp ho with rfl | h
    · exact Nat.le_trans h1 (Nat.min_le_right _ _)
    · exact h2 o h

theorem foldl_min_mem (l : List Order) (init : Nat) :
    l.foldl (fun m o => min m o.price) init = init ∨ ∃ o ∈ l, o.price = l.foldl (fun m o => min m o.price) init := by
  induction l generalizing init with
  | nil => exact Or.inl rfl
  | cons a l ih =>
    simp only [List.foldl_cons]
    rcases ih (min init a.price) with h | ⟨o, ho, h⟩
    · rw [h]
      by_cases hle : init ≤ a.price
      · exact Or.inl (Nat.min_eq_left hle)
      · exact Or.inr ⟨a, List.mem_cons_self, (Nat.min_eq_right (Nat.le_of_not_le hle)).symm⟩
    · exact Or.inr ⟨o, List.mem_cons_of_mem _ ho, h⟩

theorem le_foldl_max (l : List Order) (init : Nat) :
    init ≤ l.foldl (fun m o => max m o.price) init ∧ ∀ o ∈ l, o.price ≤ l.foldl (fun m o => max m o.price) init := by
  induction l generalizing init with
  | nil => exact ⟨Nat.le_refl _, fun o h => nomatch h⟩
  | cons a l ih =>
    obtain ⟨h1, h2⟩ := ih (max init a.price)
    refine ⟨Nat.le_trans (Nat.le_max_left _ _) h1, fun o ho => ?_⟩
    rcases List.mem_cons.mp ho with rfl | h
    · exact Nat.le_trans (Nat.le_max_right _ _) h1
    · exact h2 o h

theorem foldl_max_mem (l : List Order) (init : Nat) :
    l.foldl (fun m o => max m o.price) init = init ∨ ∃ o ∈ l, o.price = l.foldl (fun m o => max m o.price) init := by
  induction l generalizing init with
  | nil => exact Or.inl rfl
  | cons a l ih =>
    simp only [List.foldl_cons]
    rcases ih (max init a.price) with h | ⟨o, ho, h⟩
    · rw [h]
      by_cases hle : a.price ≤ init
      · exact Or.inl (Nat.max_eq_left hle)
      · exact Or.inr ⟨a, List.mem_cons_self, (Nat.max_eq_right (Nat.le_of_not_le hle)).symm⟩
    · exact Or.inr ⟨o, List.mem_cons_of_mem _ ho, h⟩

theorem foldl_min_price (l : List Order) (init m : Nat) (hm : ∃ o ∈ l, o.price = m) (hall : ∀ o ∈ l, m ≤ o.price)
    (hi : m ≤ init) : l.foldl (fun acc o => min acc o.price) init = m := by
  obtain ⟨o, ho, rfl⟩ := hm
  apply Nat.le_antisymm ((foldl_min_le l init).2 o ho)
  rcases foldl_min_mem l init with h | ⟨o', ho', h⟩
  · rw [h]; exact hi
  · rw [← h]; exact hall o' ho'

theorem foldl_max_price (l : List Order) (init m : Nat) (hm : ∃ o ∈ l, o.price = m) (hall : ∀ o ∈ l, o.price ≤ m)
    (hi : init ≤ m) : l.foldl (fun acc o => max acc o.price) init = m := by
  obtain ⟨o, ho, rfl⟩ := hm
  refine Nat.le_antisymm ?_ ((le_foldl_max l init).2 o ho)
  rcases foldl_max_mem l init with h | ⟨o', ho', h⟩
  · rw [h]; exact hi
  · rw [← h]; exact hall o' ho'

/-- The best price of a side is the resting price with the least price key (`priceKey` reverses the
order of bid prices). -/
theorem best_eq {os : List Order} {sd : Side} {p : Nat} (hp : p ≤ MAXP) (hex : ∃ o ∈ resting os sd, o.price = p)
    (hall : ∀ o ∈ resting os sd, priceKey sd p ≤ priceKey sd o.price ∧ o.price ≤ MAXP) : best os sd = p := by
  cases sd
  · refine foldl_max_price _ 0 p hex (fun o ho => ?_) (Nat.zero_le _)
    have := hall o ho
    simp only [priceKey] at this
    omega
  · exact foldl_min_price _ MAXP p hex (fun o ho => (hall o ho).1) hp

def OnGrid (os : List Order) (tick : Nat) (sd : Side) : Prop :=
  ∀ o ∈ resting os sd, o.price % tick = 0 ∧ o.price ≤ MAXP

theorem bestAsk_le (os : List Order) : ∀ o ∈ resting os .ask, bestAsk os ≤ o.price := (foldl_min_le _ _).2

theorem le_bestBid (os : List Order) : ∀ o ∈ resting os .bid, o.price ≤ bestBid os := (le_foldl_max _ _).2

/-- Needs a resting ask, unlike `bestBid_grid`: the sentinel of an empty ask side, `MAXP`, need not be a grid price
(that of an empty bid side, 0, is). -/
theorem bestAsk_grid {os : List Order} {tick : Nat} (hg : OnGrid os tick .ask) {o : Order} (ho : o ∈ resting os .ask) :
    bestAsk os % tick = 0 := by
  rcases foldl_min_mem (resting os .ask) MAXP with h | ⟨o', ho', h⟩
  · -- the sentinel: every resting price is ≥ `MAXP` and ≤ `MAXP`
    have h1 : bestAsk os ≤ o.price := bestAsk_le os o ho
    have h2 : bestAsk os = MAXP := h
    have h3 := hg o ho
    rw [show bestAsk os = o.price by omega]
    exact h3.1
  · rw [show bestAsk os = o'.price from h.symm]
    exact (hg o' ho').1

theorem bestBid_grid {os : List Order} {tick : Nat} (hg : OnGrid os tick .bid) : bestBid os % tick = 0 := by
  rcases foldl_max_mem (resting os .bid) 0 with h | ⟨o', ho', h⟩
  · rw [show bestBid os = 0 from h]
    exact Nat.zero_mod _
  · rw [show bestBid os = o'.price from h.symm]
    exact (hg o' ho').1

/-- Two grid prices less than a tick apart (in the sense `a + i·τ ≤ p < a + (i+1)·τ`) pin `p`. -/
theorem grid_pin {tick a p i : Nat} (ht : 0 < tick) (ha : a % tick = 0) (hp : p % tick = 0)
    (h1 : a + i * tick ≤ p) (h2 : p < a + (i + 1) * tick) : p = a + i * tick := by
  -- the difference is a multiple of the tick below one tick
  have hd : tick ∣ p - (a + i * tick) :=
    Nat.dvd_sub (Nat.dvd_of_mod_eq_zero hp) (Nat.dvd_add (Nat.dvd_of_mod_eq_zero ha) (Nat.dvd_mul_left ..))
  have := Nat.eq_zero_of_dvd_of_lt hd (by rw [Nat.add_mul, Nat.one_mul] at h2; omega)
  omega

theorem grid_band {tick a p : Nat} (i : Nat) (ht : 0 < tick) (ha : a % tick = 0) (hp : p % tick = 0) :
    (a + i * tick ≤ p ∧ p < a + (i + 1) * tick) ↔ p = a + i * tick := by
  refine ⟨fun ⟨h1, h2⟩ => grid_pin ht ha hp h1 h2, fun h => ?_⟩
  rw [h, Nat.add_mul, Nat.one_mul]
  omega

theorem ask_level_band {os : List Order} {tick : Nat} (ht : 0 < tick) (hg : OnGrid os tick .ask) (i : Nat) :
    (level os tick .ask i).1 =
      fsum (resting os .ask) (fun o => decide (bestAsk os + i * tick ≤ o.price) && decide (o.price < bestAsk os + (i + 1) * tick)) := by
  simp only [level]
  split
  · rw [atPrice_fst]
    refine fsum_congr fun o ho => ?_
    rw [← Bool.decide_and]
    exact decide_eq_decide.2 (grid_band i ht (bestAsk_grid hg ho) (hg o ho).1).symm
  · -- out of the price range: no resting price is that high
    refine (fsum_false fun o ho => ?_).symm
    have := (hg o ho).2
    have : ¬ bestAsk os + i * tick ≤ o.price := by omega
    simp [this]

/-- **Ask levels account for all resting ask volume within `n` ticks of the best ask.** -/
theorem ask_levels_account {os : List Order} {tick : Nat} (ht : 0 < tick) (hg : OnGrid os tick .ask) (n : Nat) :
    ((levels os tick .ask n).map (·.1)).sum = volWithin os tick .ask n := by
  simp only [levels, List.map_map]
  refine fsum_bands (resting os .ask) (fun n o => decide (o.price < bestAsk os + n * tick)) ?_ ?_ _ (fun i => ?_) n
  · intro o ho
    have := bestAsk_le os o ho
    simp; omega
  · intro i o _ h
    simp only [decide_eq_true_eq] at h ⊢
    rw [Nat.add_mul]; omega
  · exact (ask_level_band ht hg i).trans (fsum_congr fun o _ => by simp only [← decide_not, Nat.not_lt])

theorem bid_level_band {os : List Order} {tick : Nat} (ht : 0 < tick) (hg : OnGrid os tick .bid) (i : Nat) :
    (level os tick .bid i).1 =
      fsum (resting os .bid) (fun o => decide (o.price + i * tick ≤ bestBid os) && decide (bestBid os < o.price + (i + 1) * tick)) := by
  simp only [level]
  split
  · rename_i hin
    rw [atPrice_fst]
    refine fsum_congr fun o ho => ?_
    rw [← Bool.decide_and]
    -- `hin` turns the subtraction in `bestBid os - i * tick` into an addition on the other side
    refine decide_eq_decide.2 (Iff.trans ?_ (grid_band i ht (hg o ho).1 (bestBid_grid hg)).symm)
    omega
  · refine (fsum_false fun o ho => ?_).symm
    have := le_bestBid os o ho
    have : ¬ o.price + i * tick ≤ bestBid os := by omega
    simp [this]

/-- **Bid levels account for all resting bid volume within `n` ticks of the best bid.** -/
theorem bid_levels_account {os : List Order} {tick : Nat} (ht : 0 < tick) (hg : OnGrid os tick .bid) (n : Nat) :
    ((levels os tick .bid n).map (·.1)).sum = volWithin os tick .bid n := by
  simp only [levels, List.map_map]
  refine fsum_bands (resting os .bid) (fun n o => decide (bestBid os < o.price + n * tick)) ?_ ?_ _ (fun i => ?_) n
  · intro o ho
    have := le_bestBid os o ho
    simp; omega
  · intro i o _ h
    simp only [decide_eq_true_eq] at h ⊢
    rw [Nat.add_mul]; omega
  · exact (bid_level_band ht hg i).trans (fsum_congr fun o _ => by simp only [← decide_not, Nat.not_lt])

end Views
end Bourse

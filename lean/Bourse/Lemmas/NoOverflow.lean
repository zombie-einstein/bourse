/-
Fault freedom from the properties' own validity conditions.

`inv_run`, `trace_refines` and everything built on them assume `NoFault b ops`: the model's sticky
fault flags (a `u32` overflow, a failed `unwrap`, an exhausted loop) stay clear. This file proves
that hypothesis from what the properties call a *valid history*: ids refer to existing orders, and
the per-side resting volume and the cumulative traded volume — computed by the model in unbounded
`Nat` arithmetic — stay below `2^32` after every operation. Under the invariant the
underflow and missing-level sites of `remove_order` / `remove_vol` are unreachable, the match loop
meets no unknown id and does not run out of fuel, and the only overflow sites left are `insert_order`
(the side total; level total and level count are bounded by it) and the traded-volume counter, which
stay clear when the resulting totals are below `2^32`. Each lemma of `BookInvOps` ("no fault ⇒
invariant") has its counterpart here ("invariant and bounds ⇒ no fault"). The converse at the end
makes `NoFault` equivalent to feasibility.
-/
import Bourse.Lemmas.Reach

namespace Bourse

/-- A fill shortens the opposite queue unless the aggressor is used up (what makes the fuel suffice). -/
theorem LoopInv.fillStep_opp_length {b : Book} {a : Nat} (h : LoopInv b a) (sd : Side) (e : Entry) (id : Nat)
    (m : Entry) (hh : (b.side sd.opp).bestOrderIdx = some id) (hm : b.orders[id]? = some m) :
    ((Book.fillStep sd b e id m).1.side sd.opp).orders.length +
        (if 0 < (Book.fillStep sd b e id m).2.order.vol then 1 else 0) ≤ (b.side sd.opp).orders.length := by
  obtain ⟨hkk, hact, -, -⟩ := h.head_passive hh hm
  have hso := (h.side sd.opp).so
  rcases Book.fillStep_cases sd b e id (m := m) (by rw [hact]; simp) with ⟨-, hs, -⟩ | ⟨hlt, hs, -⟩
  · -- the passive order left the queue
    rw [hs, removeOrder_orders]
    have := SMap.length_erase_of_find? (m.key.pk, m.key.st) id _ hso (SMap.find?_of_mem hso hkk)
    split <;> omega
  · -- the aggressor is used up
    have h0 : (Book.fillStep sd b e id m).2.order.vol = 0 := by
      rcases Book.matchOrders_aggressor_cases b.t e.order m.order with ⟨-, ha⟩ | ⟨hgt, -⟩
      · exact congrArg Order.vol ha
      · exact absurd hlt (Nat.lt_asymm hgt)
    rw [hs, removeVol_orders, h0]
    exact Nat.le_refl _

/-- One fill faults only through the traded-volume counter. -/
theorem LoopInv.fillStep_nofault {b : Book} {a : Nat} (h : LoopInv b a) (sd : Side) (e : Entry) (id : Nat) (m : Entry)
    (hh : (b.side sd.opp).bestOrderIdx = some id) (hm : b.orders[id]? = some m) (hv : 0 < e.order.vol)
    (htv : b.tradeVol + min e.order.vol m.order.vol < P32) :
    (Book.fillStep sd b e id m).1.faulted = false := by
  refine Book.faulted_eq_false.mpr ⟨?_, fun sd' => (h.fillStep_sides sd e id m hh hm sd').nofault⟩
  have htv' : ¬ (b.tradeVol + (Book.matchOrders b.t e.order m.order).2.2.2 ≥ P32) := by
    rw [Book.matchOrders_vol]; omega
  simp [Book.fillStep, h.nofault, htv']

/- By hand on the fuel, not by `matchLoop_induct`: the claim is that the fuel suffices, and the fuel is
what the loop principle hides. -/
theorem LoopInv.matchLoop_nofault {b : Book} {a : Nat} (h : LoopInv b a) (sd : Side) (fuel : Nat) (e : Entry)
    (hfuel : (b.side sd.opp).orders.length + (if 0 < e.order.vol then 1 else 0) + 1 ≤ fuel)
    (htv : (Book.matchLoop sd fuel b e).1.tradeVol < P32) :
    (Book.matchLoop sd fuel b e).1.faulted = false := by
  induction fuel generalizing b e with
  | zero => omega
  | succ fuel ih =>
    by_cases hstop :
        (decide (e.order.vol > 0) && Book.crosses sd e.order.price (bestPrice sd.opp (b.side sd.opp))) = false ∨
        (b.side sd.opp).bestOrderIdx = none
    · rw [Book.matchLoop_stops hstop]; exact h.notFaulted
    · -- the loop goes on, and under the invariant the head is a known order: this is a fill
      have hcond : 0 < e.order.vol ∧ Book.crosses sd e.order.price (bestPrice sd.opp (b.side sd.opp)) = true := by
        simpa using fun hc => hstop (.inl hc)
      obtain ⟨id, hid⟩ := Option.ne_none_iff_exists'.mp (fun hc => hstop (.inr hc))
      obtain ⟨k, hmem⟩ := bestOrderIdx_mem hid
      obtain ⟨m, hm, -⟩ := (h.side sd.opp).ent k id hmem
      rw [Book.matchLoop_fills ⟨hcond.1, hcond.2, hid, hm⟩] at htv ⊢
      obtain ⟨new, -, hmono, -⟩ :=
        (Book.matchLoop_frame sd fuel (Book.fillStep sd b e id m).1 (Book.fillStep sd b e id m).2).ledger
      have hvol : (Book.fillStep sd b e id m).1.tradeVol = b.tradeVol + min e.order.vol m.order.vol := rfl
      rw [hvol] at hmono
      have hstep := h.fillStep_nofault sd e id m hid hm hcond.1 (by omega)
      have hlen := h.fillStep_opp_length sd e id m hid hm
      refine ih (h.fillStep sd e id m hid hm hcond.1 hstep) _ ?_ htv
      simp only [hcond.1, if_true] at hfuel
      omega

theorem LoopInv.matchSide_nofault {b : Book} {a : Nat} (h : LoopInv b a) (sd : Side) (e : Entry)
    (htv : (Book.matchSide sd b e).1.tradeVol < P32) : (Book.matchSide sd b e).1.faulted = false := by
  unfold Book.matchSide at htv ⊢
  refine h.matchLoop_nofault sd _ e ?_ htv
  unfold Book.matchFuel
  split <;> omega

theorem LoopInv.matchIfTrading_nofault {b : Book} {a : Nat} (h : LoopInv b a) (sd : Side) (e : Entry)
    (htv : (Book.matchIfTrading sd b e).1.tradeVol < P32) : (Book.matchIfTrading sd b e).1.faulted = false :=
  Book.matchIfTrading_shapes (motive := fun r => r.1.tradeVol < P32 → r.1.faulted = false) sd b e
    (fun _ htv => h.matchSide_nofault sd e htv) (fun _ _ => h.notFaulted) htv

theorem LoopInv.enqueue_nofault {b : Book} {a : Nat} (h : LoopInv b a) (sd : Side) (e : Entry) (pk : Nat)
    (hv : 0 < e.order.vol) (hb : ((Book.enqueue sd b e pk).1.side sd).vol < P32) :
    (Book.enqueue sd b e pk).1.faulted = false := by
  rw [Book.enqueue_side, insertOrder_vol] at hb
  refine Book.faulted_eq_false.mpr ⟨(Book.enqueue_fault sd b e pk).trans h.nofault, sd.forall_of ?_ ?_⟩
  · rw [Book.enqueue_side]
    exact (h.side sd).insert_nofault pk b.stamp e.order.id e.order.vol hv hb
  · rw [Book.enqueue_side_opp]
    exact (h.side sd.opp).nofault

/-- What bounds the outcome of an operation: both side totals and the traded-volume counter, as the
model computes them in unbounded arithmetic, are below `2^32`. -/
def Book.Bounded (b : Book) : Prop := b.bid.vol < P32 ∧ b.ask.vol < P32 ∧ b.tradeVol < P32

theorem Book.Bounded.side {b : Book} (h : b.Bounded) (sd : Side) : (b.side sd).vol < P32 := by
  cases sd; exact h.1; exact h.2.1

theorem LoopInv.finish_limit_nofault {b : Book} {a : Nat} (h : LoopInv b a) (sd : Side) (e : Entry) (pk : Nat)
    (hs : e.order.status = .active) (hv : 0 < e.order.vol)
    (hb : (Book.writeBack (Book.restUnlessFilled sd (Book.matchIfTrading sd b e) pk) a).Bounded) :
    (Book.writeBack (Book.restUnlessFilled sd (Book.matchIfTrading sd b e) pk) a).faulted = false := by
  have htv : (Book.matchIfTrading sd b e).1.tradeVol < P32 := by
    have := hb.2.2
    rwa [Book.writeBack_tradeVol, Book.restUnlessFilled_tradeVol] at this
  have hmnf := h.matchIfTrading_nofault sd e htv
  have hside := hb.side sd
  rw [Book.writeBack_faulted]
  rw [Book.writeBack_side] at hside
  rcases Book.restUnlessFilled_cases sd (Book.matchIfTrading sd b e) pk with ⟨-, hc⟩ | ⟨hf, hc⟩
  · rw [hc]; exact hmnf
  · rw [hc] at hside ⊢
    rcases matchIfTrading_agg_status sd b e hs hv with hstat | hstat
    · exact (matchIfTrading_loopInv h sd e hmnf).enqueue_nofault sd _ pk hstat.2 hside
    · exact absurd hstat hf

theorem LoopInv.finish_market_nofault {b : Book} {a : Nat} (h : LoopInv b a) (sd : Side) (e : Entry)
    (hb : (Book.writeBack (Book.placeMarket sd b e) a).Bounded) :
    (Book.writeBack (Book.placeMarket sd b e) a).faulted = false := by
  rw [Book.writeBack_faulted]
  have htv := hb.2.2
  rw [Book.writeBack_tradeVol] at htv
  by_cases ht : b.trading = true
  · rw [Book.placeMarket_on sd b e ht, Book.cancelRemainder_fst] at htv ⊢
    exact h.matchSide_nofault sd e htv
  · rw [Book.placeMarket_off sd b e (by simpa using ht)]
    exact h.notFaulted

theorem Inv.place_nofault {b : Book} (h : Inv b) (id : Nat) (hid : id < b.orders.length)
    (hb : (b.placeOrder id).Bounded) : (b.placeOrder id).faulted = false := by
  refine Book.placeOrder_shapes (motive := fun b' => b'.Bounded → b'.faulted = false) b id ?_ ?_ ?_ ?_ hb
  · intro he; rw [List.getElem?_eq_none_iff] at he; omega
  · exact fun _ _ _ _ => h.notFaulted
  · intro e he hnew _ hb
    exact (h.toLoop he (by rw [hnew]; simp)).finish_market_nofault _ _ hb
  · intro e he hnew _ hb
    exact (h.toLoop he (by rw [hnew]; simp)).finish_limit_nofault _ _ _ rfl (h.newok id e he hnew).2.1 hb

theorem Inv.cancel_nofault {b : Book} (h : Inv b) (id : Nat) (hid : id < b.orders.length) :
    (b.cancelOrder id).faulted = false := by
  refine Book.cancelOrder_shapes (motive := fun b' => b'.faulted = false) b id ?_ ?_ ?_
  · intro he; rw [List.getElem?_eq_none_iff] at he; omega
  · exact fun _ _ _ => h.notFaulted
  · intro e he hact
    exact ((h.dequeue_loop he hact).close_inactive
      { e with order := { e.order with status := .cancelled, endt := b.t } } (by simp) (by simp) (h.ids id e he)).notFaulted

theorem Inv.replace_nofault {b : Book} (h : Inv b) {id : Nat} {e : Entry} (he : b.orders[id]? = some e)
    (hact : e.order.status = .active) (np nv : Nat) (hv : 0 < nv)
    (hb : (Book.writeBack (b.replaceOrder e np nv) id).Bounded) :
    (Book.writeBack (b.replaceOrder e np nv) id).faulted = false := by
  obtain ⟨hks, -⟩ := h.active_key he hact
  have hl := h.dequeue_loop he hact
  unfold Book.replaceOrder at hb ⊢
  rw [hks] at hb ⊢
  exact hl.finish_limit_nofault e.order.side _ _ (by simpa using hact) (by simpa using hv) hb

theorem Inv.modify_nofault {b : Book} (h : Inv b) (id : Nat) (np nv : Option Nat) (hid : id < b.orders.length)
    (hvalid : ∀ v, nv = some v → 0 < v) (hb : (b.modifyOrder id np nv).Bounded) :
    (b.modifyOrder id np nv).faulted = false := by
  refine Book.modifyOrder_shapes (motive := fun b' => b'.Bounded → b'.faulted = false) b id np nv ?_ ?_ ?_ ?_ hb
  · intro he; rw [List.getElem?_eq_none_iff] at he; omega
  · exact fun _ _ _ _ => h.notFaulted
  · intro e v he hact _ hnv hlt _
    exact (h.reduce he hact v (hvalid v hnv) hlt).notFaulted
  · intro e p v he hact _ hre
    cases hre with
    | volume v _ => exact h.replace_nofault he hact _ _ (hvalid v rfl)
    | price p _ => exact h.replace_nofault he hact _ _ (h.active_key he hact).vol_pos
    | both p v _ => exact h.replace_nofault he hact _ _ (hvalid v rfl)

/-- "ids refer to existing orders". -/
def KnownId (b : Book) : Op → Prop
  | .place id => id < b.orders.length
  | .cancel id => id < b.orders.length
  | .modify id _ _ => id < b.orders.length
  | .ev (.new id) => id < b.orders.length
  | .ev (.cancel id) => id < b.orders.length
  | .ev (.modify id _ _) => id < b.orders.length
  | _ => True

/-- **One step.** From a state satisfying the invariant, a valid operation on a known id whose
outcome has both side totals and the traded-volume counter below `2^32` does not fault. -/
theorem step_nofault {b : Book} (h : Inv b) (op : Op) (hv : ValidOp op) (hk : KnownId b op)
    (hb : (b.step op).1.Bounded) : (b.step op).1.faulted = false := by
  refine Book.step_shapes (motive := fun op r => ValidOp op → KnownId b op → r.1.Bounded → r.1.faulted = false) b
    (fun sd vol tr p hv _ _ => (h.create sd vol tr p hv.1 hv.2).notFaulted)
    (fun id _ hk hb => h.place_nofault id hk hb)
    (fun sd vol tr p id hid hv _ hb => (h.create sd vol tr p hv.1 hv.2).place_nofault id (Book.createOrder_ok_lt hid) hb)
    (fun sd vol tr p _ _ _ hv _ _ => (h.create sd vol tr p hv.1 hv.2).notFaulted)
    (fun id _ hk _ => h.cancel_nofault id hk) (fun id p v hv hk hb => h.modify_nofault id p v hk hv.1 hb)
    (fun e r hr => by cases e <;> exact hr) (fun _ ha _ _ _ => (h.admin ha).notFaulted)
    (fun _ _ _ _ => h.notFaulted) (fun _ _ _ _ => by rw [reload_eq h]; exact h.notFaulted) op hv hk hb

/-- A history is *feasible*: every id refers to an existing order and after every operation the
per-side resting volume and the cumulative traded volume are below `2^32` (the validity conditions
quoted by C01–C07, C12, C13). -/
def Feasible : Book → List Op → Prop
  | _, [] => True
  | b, op :: rest => KnownId b op ∧ (b.step op).1.Bounded ∧ Feasible (b.step op).1 rest

/-- **Valid histories never fault.** The `NoFault` hypothesis of `inv_run` and of the refinement
holds for every valid feasible history. -/
theorem noFault_of_feasible {b : Book} (h : Inv b) (ops : List Op) (hv : ∀ op ∈ ops, ValidOp op)
    (hf : Feasible b ops) : NoFault b ops := by
  induction ops generalizing b with
  | nil => trivial
  | cons op rest ih =>
    have hvo := hv op List.mem_cons_self
    have hnf := step_nofault h op hvo hf.1 hf.2.1
    exact ⟨hnf, ih (inv_step h op hvo hnf) (fun o ho => hv o (List.mem_cons_of_mem _ ho)) hf.2.2⟩

/-! The converse: a history that does not fault is feasible, so `NoFault` *is* the validity condition of
the properties, not something stronger. -/

theorem step_tradeVol_lt {b : Book} (h : Inv b) (op : Op) (hb : b.tradeVol < P32)
    (hnf : (b.step op).1.faulted = false) : (b.step op).1.tradeVol < P32 := by
  by_cases ha : op.Admin
  · rcases (Book.admin_frame b ha).counter with hc | hc
    · rw [hc]; exact hb
    · rw [hc]; decide
  · exact (Book.step_opFrame b op ha).counter hnf hb

theorem knownId_of_nofault (b : Book) (op : Op) (hnf : (b.step op).1.faulted = false) : KnownId b op := by
  -- an unknown id sets the fault flag
  have key : ∀ id (b' : Book), b'.faulted = false → (b.orders[id]? = none → b' = { b with fault := true }) →
      id < b.orders.length := by
    intro id b' hnf hb'
    refine Nat.lt_of_not_le fun hle => ?_
    rw [hb' (List.getElem?_eq_none_iff.mpr hle)] at hnf
    simp [Book.faulted] at hnf
  refine Book.step_shapes (motive := fun op r => r.1.faulted = false → KnownId b op) b
    (fun _ _ _ _ _ => trivial)
    (fun id hnf => key id _ hnf fun hn => by simp [Book.placeOrder, hn])
    (fun _ _ _ _ _ _ _ => trivial) (fun _ _ _ _ _ _ _ _ => trivial)
    (fun id hnf => key id _ hnf fun hn => by simp [Book.cancelOrder, hn])
    (fun id p v hnf => key id _ hnf fun hn => by simp [Book.modifyOrder, hn])
    (fun e r hr => by cases e <;> exact hr) (fun _ ha _ => by cases ha <;> trivial)
    (fun _ _ => trivial) (fun _ _ => trivial) op hnf

/-- **Fault freedom is exactly feasibility.** For valid histories from a state satisfying the
invariant with its traded-volume counter below `2^32` (in particular from a new book), the model's
fault flags stay clear if and only if every
id refers to an existing order and the per-side resting volumes and the traded-volume counter stay
below `2^32` after every operation. -/
theorem noFault_iff_feasible {b : Book} (h : Inv b) (hb : b.tradeVol < P32) (ops : List Op)
    (hv : ∀ op ∈ ops, ValidOp op) : NoFault b ops ↔ Feasible b ops := by
  constructor
  · intro hnf
    induction ops generalizing b with
    | nil => trivial
    | cons op rest ih =>
      have hvo := hv op List.mem_cons_self
      have hi := inv_step h op hvo hnf.1
      have htv := step_tradeVol_lt h op hb hnf.1
      exact ⟨knownId_of_nofault b op hnf.1, ⟨hi.bid.bnd, hi.ask.bnd, htv⟩,
        ih hi htv (fun o ho => hv o (List.mem_cons_of_mem _ ho)) hnf.2⟩
  · exact noFault_of_feasible h ops hv

/-- A *valid history* on a new book, in the words of C01–C07, C12, C13: positive tick size; order and
modify volumes ≥ 1 and prices within 32 bits (`ValidOp`); ids refer to existing orders and the
per-side resting volume and cumulative traded volume stay below `2^32` (`Feasible`). -/
structure ValidHistory (t0 tick : Nat) (trading : Bool) (ops : List Op) : Prop where
  tick_pos : 0 < tick
  ops_valid : ∀ op ∈ ops, ValidOp op
  feasible : Feasible (Book.new t0 tick trading) ops

theorem ValidHistory.noFault {t0 tick : Nat} {trading : Bool} {ops : List Op} (h : ValidHistory t0 tick trading ops) :
    NoFault (Book.new t0 tick trading) ops :=
  noFault_of_feasible (inv_new t0 tick trading h.tick_pos) ops h.ops_valid h.feasible

theorem ValidHistory.inv {t0 tick : Nat} {trading : Bool} {ops : List Op} (h : ValidHistory t0 tick trading ops) :
    Inv ((Book.new t0 tick trading).run ops) :=
  inv_reachable t0 tick trading h.tick_pos ops h.ops_valid h.noFault

instance (b : Book) (op : Op) : Decidable (KnownId b op) := by
  cases op with
  | ev e => cases e <;> (unfold KnownId; infer_instance)
  | _ => unfold KnownId; infer_instance

instance (b : Book) : Decidable b.Bounded := by unfold Book.Bounded; infer_instance

instance decFeasible : (b : Book) → (ops : List Op) → Decidable (Feasible b ops)
  | _, [] => isTrue trivial
  | b, op :: rest => by
    unfold Feasible
    have := decFeasible (b.step op).1 rest
    infer_instance

end Bourse

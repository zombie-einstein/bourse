/-
Whole-update theorems for the float-exact agent models (`Model/FloatAgents.lean`), for EVERY sampler
`smp` (the `LogNormal` stand-in) and every `tanh` stand-in:

* what an update does to the environment is a sequence of valid submissions (`Reach`): cancellations
  of orders the agent tracked and saw Active, limit orders of its own traders with the configured
  volume, a price on the tick grid and on the right side of the observed mid-price, market orders of
  its own traders;
* an update never aborts when the agent is consistent with the environment (same tick size, its
  asset exists, it tracks existing orders);
* a momentum agent only buys when `0 < M`, only sells when `M < 0`; with neither direction allowed
  (`M = 0`) the books are left as they were (`reach_no_direction_market`);
* the uniform draws the agents compare with their probabilities lie in `[0, 1)` (`genF32_range`,
  `genF64_range`), so a probability that is not positive never acts and one that is at least 1
  always does (`draw_not_below_nonpos`, `draw_below_ge_one`).
-/
import Bourse.Lemmas.F64Prices
import Bourse.Lemmas.TraderTurn
import Bourse.Lemmas.Dispatch

namespace Bourse
namespace FAgents
open F64

/-- The environments reachable from `e0` by valid submissions of an agent on asset `a` with traders
`trs`, volume `vol`, tick `tick`, having observed the mid-price `mid` and tracking the orders `own`.
`buys` / `sells` say which directions are allowed (a noise agent: both). -/
inductive Reach (a tick vol : Nat) (trs : List Nat) (mid : ℚ) (own : List Nat) (buys sells : Bool) (e0 : MEnv) : MEnv → Prop
  | refl : Reach a tick vol trs mid own buys sells e0 e0
  | cancel {e id} : Reach a tick vol trs mid own buys sells e0 e → id ∈ own →
      RandomAgents.orderStatus e0 a id = some .active → Reach a tick vol trs mid own buys sells e0 (e.cancelOrder a id)
  | limitBuy {e p tr id e'} : Reach a tick vol trs mid own buys sells e0 e → buys = true → tr ∈ trs → p % tick = 0 → (p : ℚ) ≤ mid →
      e.placeOrder a .bid vol tr (some p) = (e', .ok id) → Reach a tick vol trs mid own buys sells e0 e'
  | limitSell {e p tr id e'} : Reach a tick vol trs mid own buys sells e0 e → sells = true → tr ∈ trs → p % tick = 0 → mid ≤ (p : ℚ) →
      e.placeOrder a .ask vol tr (some p) = (e', .ok id) → Reach a tick vol trs mid own buys sells e0 e'
  | marketBuy {e tr id e'} : Reach a tick vol trs mid own buys sells e0 e → buys = true → tr ∈ trs →
      e.placeOrder a .bid vol tr none = (e', .ok id) → Reach a tick vol trs mid own buys sells e0 e'
  | marketSell {e tr id e'} : Reach a tick vol trs mid own buys sells e0 e → sells = true → tr ∈ trs →
      e.placeOrder a .ask vol tr none = (e', .ok id) → Reach a tick vol trs mid own buys sells e0 e'

theorem partitionLive_spec (e : MEnv) (a : Nat) (pc : F) (orders : List Nat) (g : Xoro)
    (live canc : List Nat) (g' : Xoro) (h : partitionLive e a pc orders g = some (live, canc, g')) :
    (∀ id ∈ canc, id ∈ orders ∧ RandomAgents.orderStatus e a id = some .active) ∧
    (∀ id ∈ live, id ∈ orders ∧ RandomAgents.orderStatus e a id = some .active) := by
  have lift : ∀ {id : Nat} {rest : List Nat} (l : List Nat),
      (∀ i ∈ l, i ∈ rest ∧ RandomAgents.orderStatus e a i = some .active) →
      ∀ i ∈ l, i ∈ id :: rest ∧ RandomAgents.orderStatus e a i = some .active :=
    fun l hl i hi => ⟨List.mem_cons_of_mem _ (hl i hi).1, (hl i hi).2⟩
  fun_induction partitionLive e a pc orders g generalizing live canc g' with
  | case1 => cases h; exact ⟨nofun, nofun⟩
  | case2 => cases h
  | case3 => cases h
  | case4 id rest g st hst hact u g1 _ l c g2 hrec _ ih =>
    cases h
    obtain ⟨hc, hl⟩ := ih _ _ _ hrec
    exact ⟨lift _ hc, List.forall_mem_cons.mpr ⟨⟨List.mem_cons_self, by rw [hst, eq_of_beq hact]⟩, lift _ hl⟩⟩
  | case5 id rest g st hst hact u g1 _ l c g2 hrec _ ih =>
    cases h
    obtain ⟨hc, hl⟩ := ih _ _ _ hrec
    exact ⟨List.forall_mem_cons.mpr ⟨⟨List.mem_cons_self, by rw [hst, eq_of_beq hact]⟩, lift _ hc⟩, lift _ hl⟩
  | case6 id rest g st _ _ ih =>
    obtain ⟨hc, hl⟩ := ih _ _ _ h
    exact ⟨lift _ hc, lift _ hl⟩

theorem midOf_book {e : MEnv} {a : Nat} {b : Book} (hb : e.market.books[a]? = some b) :
    midOf e a = some (.fin ((b.mid2 : ℚ) / 2)) := by
  unfold midOf; rw [hb]; rfl

theorem cancelAll_reach {a tick vol trs mid own buys sells e0} (e : MEnv) (l : List Nat)
    (he : Reach a tick vol trs mid own buys sells e0 e)
    (hl : ∀ id ∈ l, id ∈ own ∧ RandomAgents.orderStatus e0 a id = some .active) :
    Reach a tick vol trs mid own buys sells e0 (cancelAll e a l) := by
  induction l generalizing e with
  | nil => exact he
  | cons id rest ih =>
    simp only [cancelAll]
    exact ih _ (Reach.cancel he (hl id List.mem_cons_self).1 (hl id List.mem_cons_self).2)
      (fun i hi => hl i (List.mem_cons_of_mem _ hi))

/-- Hypotheses under which the quoted prices are valid: the observed mid-price is the half-integer
`k/2` of `u32` touch prices, at least a tick below `Price::MAX`; the tick is a positive `u32`; the
sampler never returns NaN (a log-normal with finite parameters returns `exp` of a finite value). -/
structure QuoteOk (k tick : Nat) (smp : Sampler) : Prop where
  tick_pos : 0 < tick
  tick_u32 : tick ≤ 4294967295
  mid_room : k + 2 * tick ≤ 8589934590
  no_nan   : ∀ g, (smp g).1 ≠ .nan

theorem turn_reach {a tick vol : Nat} {trs own : List Nat} {buys sells : Bool} {e0 : MEnv} {smp : Sampler} {k : Nat}
    (hq : QuoteOk k tick smp) {tr : Nat} (htr : tr ∈ trs) {lim : Option (Side × F)} {mkt : Option Side}
    {live : List Nat} {e : MEnv} {r : List Nat × MEnv}
    (hl : ∀ x ∈ lim, allowed buys sells x.1 ∧ ∃ g0, x.2 = (smp g0).1) (hm : ∀ sd ∈ mkt, allowed buys sells sd)
    (he : Reach a tick vol trs ((k : ℚ) / 2) own buys sells e0 e)
    (h : turn a tick vol (.fin ((k : ℚ) / 2)) tr lim mkt live e = some r) :
    Reach a tick vol trs ((k : ℚ) / 2) own buys sells e0 r.2 := by
  have hk : k ≤ 8589934590 := by have := hq.mid_room; omega
  refine turn_inv (fun e => Reach a tick vol trs ((k : ℚ) / 2) own buys sells e0 e) ?_ ?_ he h
  · intro x hx e id e' he hs
    obtain ⟨hsd, g0, hd⟩ := hl x hx
    have hp := submitLimit_eq hs
    obtain ⟨sd, d⟩ := x
    cases sd with
    | bid =>
      have hv := buyPrice_valid k tick hq.tick_pos hq.tick_u32 hk d
      exact Reach.limitBuy he hsd htr hv.1 hv.2 hp
    | ask =>
      have hv := sellPrice_valid k tick hq.tick_pos hq.tick_u32 hq.mid_room d
        (by rw [show d = (smp g0).1 from hd]; exact hq.no_nan g0)
      exact Reach.limitSell he hsd htr hv.1 hv.2 hp
  · intro sd hsd e e' he hs
    obtain ⟨id, hp⟩ := submitMarket_eq hs
    cases sd with
    | bid => exact Reach.marketBuy he (hm _ hsd) htr hp
    | ask => exact Reach.marketSell he (hm _ hsd) htr hp

/-- **Every instruction a noise agent submits is valid** (single- and multi-asset; every sampler):
an update takes the environment to one reachable by cancelling orders it tracked and saw Active,
placing limit orders of its own traders with the configured volume at a price on the tick grid —
buys at or below, sells at or above the mid-price it observed — and market orders of its own
traders; nothing else. -/
theorem noiseUpdate_reach (c : NoiseP) (smp : Sampler) (orders : List Nat) (e : MEnv) (g : Xoro)
    (b : Book) (hb : e.market.books[c.asset]? = some b) (hq : QuoteOk b.mid2 c.tick smp)
    {live' e' g'} (h : noiseUpdate c smp orders e g = some (live', e', g')) :
    Reach c.asset c.tick c.vol c.traders ((b.mid2 : ℚ) / 2) orders true true e e' := by
  rw [noiseUpdate_eq, midOf_book hb] at h
  obtain ⟨⟨live, canc, g1⟩, hp, h⟩ := Option.bind_eq_some_iff.mp h
  exact turnLoop_inv _ c.traders (fun tr _ => noiseTrader_turn c smp _ tr)
    (fun tr htr lim mkt live e r hl hm he ht => turn_reach hq htr hl hm he ht)
    (cancelAll_reach e canc Reach.refl (partitionLive_spec _ _ _ _ _ _ _ _ hp).1) h

/-- **Every instruction a momentum agent submits is valid, and its direction is the sign of the
signal**: an update reaches an environment obtained by cancelling tracked Active orders and placing
limit / market orders of its own traders (configured volume, grid prices on the right side of the
observed mid-price) — buys only if `0 < M`, sells only if `M < 0`, hence nothing when `M = 0` —
where `M` is the signal `signal` computes from the observed mid-prices. For every sampler and every
`tanh`. -/
theorem momUpdate_reach (c : MomP) (smp : Sampler) (th : F → F) (s : MomState) (e : MEnv) (g : Xoro)
    (b : Book) (hb : e.market.books[c.asset]? = some b) (hq : QuoteOk b.mid2 c.tick smp)
    {s' e' g'} (h : momUpdate c smp th s e g = some (s', e', g')) :
    Reach c.asset c.tick c.vol c.traders ((b.mid2 : ℚ) / 2) s.orders
      (F64.lt (.fin 0) (signal c th s (.fin ((b.mid2 : ℚ) / 2))).1)
      (F64.lt (signal c th s (.fin ((b.mid2 : ℚ) / 2))).1 (.fin 0)) e e' ∧
    s'.m = (signal c th s (.fin ((b.mid2 : ℚ) / 2))).1 ∧ s'.last = some (.fin ((b.mid2 : ℚ) / 2)) := by
  rw [momUpdate_eq, midOf_book hb] at h
  obtain ⟨⟨live, canc, g1⟩, hp, h⟩ := Option.bind_eq_some_iff.mp h
  obtain ⟨x, hx, h⟩ := Option.map_eq_some_iff.mp h
  cases h
  exact ⟨turnLoop_inv _ c.traders (fun tr _ => momTrader_turn c smp _ _ _ _ tr)
    (fun tr htr lim mkt live e r hl hm he ht => turn_reach hq htr hl hm he ht)
    (cancelAll_reach e canc Reach.refl (partitionLive_spec _ _ _ _ _ _ _ _ hp).1) hx, rfl, rfl⟩

theorem createOrder_of_grid (b : Book) (sd : Side) (vol tr : Nat) (p : Option Nat)
    (hp : ∀ q, p = some q → q % b.tick = 0) :
    ∃ b', b.createOrder sd vol tr p = (b', .ok b.orders.length) ∧ b'.tick = b.tick :=
  Book.createOrder_shapes (motive := fun r => ∃ b', r = (b', .ok b.orders.length) ∧ b'.tick = b.tick) b sd vol tr p
    (fun q hq h => by simp [hp q hq] at h) fun _ => ⟨_, rfl, rfl⟩

theorem placeOrder_ok (e : MEnv) (a : Nat) (b : Book) (hb : e.market.books[a]? = some b) (sd : Side) (vol tr : Nat)
    (p : Option Nat) (hp : ∀ q, p = some q → q % b.tick = 0) :
    ∃ e' id b', e.placeOrder a sd vol tr p = (e', .ok id) ∧ e'.market.books[a]? = some b' ∧ b'.tick = b.tick := by
  obtain ⟨b', hc, ht⟩ := createOrder_of_grid b sd vol tr p hp
  generalize b.orders.length = id at hc
  have hlen : a < e.market.books.length := (List.getElem?_eq_some_iff.mp hb).1
  have hm : e.market.createOrder a sd vol tr p = ({ e.market with books := e.market.books.set a b' }, .ok id) := by
    unfold Market.createOrder Market.stepOn
    rw [hb]
    simp only [Book.step, hc, Res.ofCreate]
  refine ⟨{ e with market := { e.market with books := e.market.books.set a b' }, queue := e.queue ++ [(a, .new id)] }, id, b', ?_, ?_, ht⟩
  · unfold MEnv.placeOrder
    rw [hm]
  · simp [List.getElem?_set_self hlen]

/-- The agent is consistent with the environment: its asset exists with the same tick size (a
positive `u32`). -/
structure Consistent (e : MEnv) (a tick : Nat) : Prop where
  tick_pos : 0 < tick
  tick_u32 : tick ≤ 4294967295
  book     : ∃ b, e.market.books[a]? = some b ∧ b.tick = tick

theorem submitLimit_ok {e : MEnv} {a tick : Nat} (hc : Consistent e a tick) (sd : Side) (vol tr p : Nat)
    (hp : p % tick = 0) : ∃ id e', submitLimit e a sd vol tr p = some (id, e') ∧ Consistent e' a tick := by
  obtain ⟨b, hb, ht⟩ := hc.book
  obtain ⟨e', id, b', h1, h2, h3⟩ := placeOrder_ok e a b hb sd vol tr (some p) (by intro q hq; cases hq; rw [ht]; exact hp)
  refine ⟨id, e', ?_, hc.tick_pos, hc.tick_u32, b', h2, h3.trans ht⟩
  unfold submitLimit
  rw [h1]

theorem submitMarket_ok {e : MEnv} {a tick : Nat} (hc : Consistent e a tick) (sd : Side) (vol tr : Nat) :
    ∃ e', submitMarket e a sd vol tr = some e' ∧ Consistent e' a tick := by
  obtain ⟨b, hb, ht⟩ := hc.book
  obtain ⟨e', id, b', h1, h2, h3⟩ := placeOrder_ok e a b hb sd vol tr none (by intro q hq; cases hq)
  refine ⟨e', ?_, hc.tick_pos, hc.tick_u32, b', h2, h3.trans ht⟩
  unfold submitMarket
  rw [h1]

theorem partitionLive_ok (e : MEnv) (a : Nat) (pc : F) (orders : List Nat) (g : Xoro)
    (h : ∀ id ∈ orders, RandomAgents.orderStatus e a id ≠ none) :
    ∃ r, partitionLive e a pc orders g = some r := by
  fun_induction partitionLive e a pc orders g with
  | case1 => exact ⟨_, rfl⟩
  | case2 id rest g hnone => exact absurd hnone (h id List.mem_cons_self)
  | case3 id rest g st _ _ u g1 _ hrec ih =>
    obtain ⟨r, hr⟩ := ih fun i hi => h i (List.mem_cons_of_mem _ hi)
    rw [hrec] at hr
    cases hr
  | case4 => exact ⟨_, rfl⟩
  | case5 => exact ⟨_, rfl⟩
  | case6 id rest g st _ _ ih => exact ih fun i hi => h i (List.mem_cons_of_mem _ hi)

/-- A turn never aborts, whatever was drawn: the buy price is on the grid for every distance
(`buyPrice_valid`), the sell price is repaired onto it (`sellPrice_grid`). -/
theorem turn_ok {a tick vol k : Nat} (hk : k ≤ 8589934590) (tr : Nat) (lim : Option (Side × F)) (mkt : Option Side)
    (live : List Nat) (e : MEnv) (hc : Consistent e a tick) :
    ∃ r, turn a tick vol (.fin ((k : ℚ) / 2)) tr lim mkt live e = some r ∧ Consistent r.2 a tick := by
  have h1 : ∃ r1, limitPart a tick vol (.fin ((k : ℚ) / 2)) tr live e lim = some r1 ∧ Consistent r1.2 a tick := by
    cases lim with
    | none => exact ⟨_, rfl, hc⟩
    | some x =>
      obtain ⟨sd, d⟩ := x
      have hv : quote (.fin ((k : ℚ) / 2)) d tick sd % tick = 0 := by
        cases sd with
        | bid => exact (buyPrice_valid k tick hc.tick_pos hc.tick_u32 hk d).1
        | ask => exact sellPrice_grid _ d tick
      obtain ⟨id, e', h1, hc'⟩ := submitLimit_ok hc sd vol tr _ hv
      exact ⟨_, by simp only [limitPart, h1]; rfl, hc'⟩
  obtain ⟨r1, h1, hc1⟩ := h1
  unfold turn
  rw [h1]
  cases mkt with
  | none => exact ⟨_, rfl, hc1⟩
  | some sd =>
    obtain ⟨e2, h2, hc2⟩ := submitMarket_ok hc1 sd vol tr
    exact ⟨(r1.1, e2), by simp only [marketPart, h2]; rfl, hc2⟩

theorem tracked_status {e : MEnv} {a : Nat} {b : Book} (hb : e.market.books[a]? = some b) {orders : List Nat}
    (htracked : ∀ id ∈ orders, id < b.orders.length) : ∀ id ∈ orders, RandomAgents.orderStatus e a id ≠ none := by
  intro id hid
  unfold RandomAgents.orderStatus
  rw [hb]
  simp only [Option.bind_some]
  have := htracked id hid
  simp [List.getElem?_eq_getElem this]

/-- **A noise agent never aborts the simulation**: for every sampler (NaN and infinities included),
every probability setting and every generator state, `update` returns normally whenever the agent
is consistent with the environment — its asset exists with the agent's tick size — and the orders
it tracks exist. (The mid-price bound `mid2 ≤ 2·Price::MAX` holds of any two `u32` touch prices.) -/
theorem noiseUpdate_ok (c : NoiseP) (smp : Sampler) (orders : List Nat) (e : MEnv) (g : Xoro)
    (b : Book) (hb : e.market.books[c.asset]? = some b) (ht : b.tick = c.tick) (hpos : 0 < c.tick) (hu32 : c.tick ≤ 4294967295)
    (hmid : b.mid2 ≤ 8589934590) (htracked : ∀ id ∈ orders, id < b.orders.length) :
    ∃ r, noiseUpdate c smp orders e g = some r := by
  obtain ⟨r, hr⟩ := partitionLive_ok e c.asset c.pCancel orders g (tracked_status hb htracked)
  rw [noiseUpdate_eq, hr, midOf_book hb]
  exact turnLoop_ok (fun e => Consistent e c.asset c.tick) c.traders (fun tr _ => noiseTrader_turn c smp _ tr)
    (fun tr lim mkt live e he => turn_ok hmid tr lim mkt live e he)
    ⟨hpos, hu32, b, by rw [cancelAll_market]; exact hb, ht⟩

/-- **A momentum agent never aborts the simulation**: for every sampler, every `tanh`, every
(finite or not) decay / demand / scale / order ratio and every generator state. -/
theorem momUpdate_ok (c : MomP) (smp : Sampler) (th : F → F) (s : MomState) (e : MEnv) (g : Xoro)
    (b : Book) (hb : e.market.books[c.asset]? = some b) (ht : b.tick = c.tick) (hpos : 0 < c.tick) (hu32 : c.tick ≤ 4294967295)
    (hmid : b.mid2 ≤ 8589934590) (htracked : ∀ id ∈ s.orders, id < b.orders.length) :
    ∃ r, momUpdate c smp th s e g = some r := by
  obtain ⟨r, hr⟩ := partitionLive_ok e c.asset c.pCancel s.orders g (tracked_status hb htracked)
  rw [momUpdate_eq, hr, midOf_book hb, Option.bind_some, Option.bind_some, ← Option.isSome_iff_exists,
    Option.isSome_map, Option.isSome_iff_exists]
  exact turnLoop_ok (fun e => Consistent e c.asset c.tick) c.traders (fun tr _ => momTrader_turn c smp _ _ _ _ tr)
    (fun tr lim mkt live e he => turn_ok hmid tr lim mkt live e he)
    ⟨hpos, hu32, b, by rw [cancelAll_market]; exact hb, ht⟩

/-- With neither direction allowed (`M = 0`), whatever the update did left every book untouched:
only cancellations were queued. -/
theorem reach_no_direction_market {a tick vol trs mid own e0 e} (h : Reach a tick vol trs mid own false false e0 e) :
    e.market = e0.market := by
  induction h with
  | refl => rfl
  | cancel _ _ _ ih => simpa [MEnv.cancelOrder] using ih
  | limitBuy _ hb => cases hb
  | limitSell _ hs => cases hs
  | marketBuy _ hb => cases hb
  | marketSell _ hs => cases hs

theorem genF32_lt (g : Xoro) : g.genF32.1 < 16777216 := by
  simp only [Xoro.genF32, Xoro.next32]
  have : (g.next.1.toNat % 4294967296) < 4294967296 := Nat.mod_lt _ (by decide)
  omega

theorem unit_draw {k n : ℕ} (h : k < n) : 0 ≤ (k : ℚ) / (n : ℚ) ∧ (k : ℚ) / (n : ℚ) < 1 :=
  ⟨div_nonneg (Nat.cast_nonneg k) (Nat.cast_nonneg n),
   (div_lt_one (Nat.cast_pos.mpr (Nat.zero_lt_of_lt h))).mpr (Nat.cast_lt.mpr h)⟩

theorem genF32_range (g : Xoro) : ∃ q : ℚ, (genF32 g).1 = .fin q ∧ 0 ≤ q ∧ q < 1 :=
  ⟨_, rfl, unit_draw (genF32_lt g)⟩

theorem genF64_range (g : Xoro) : ∃ q : ℚ, (genF64 g).1 = .fin q ∧ 0 ≤ q ∧ q < 1 := by
  have h : g.next.1.toNat / 2048 < 9007199254740992 := by
    have : g.next.1.toNat < 18446744073709551616 := g.next.1.toNat_lt
    omega
  exact ⟨_, rfl, unit_draw h⟩

/-- **Probability 0 (or less, or NaN) never happens**: no uniform draw in `[0, 1)` is below it. -/
theorem draw_not_below_nonpos (q : ℚ) (hq : 0 ≤ q) (p : F) (hp : F64.lt (.fin 0) p = false) : F64.lt (.fin q) p = false := by
  cases p with
  | fin r =>
    simp only [F64.lt, decide_eq_false_iff_not, not_lt] at hp ⊢
    exact hp.trans hq
  | pinf => simp [F64.lt] at hp
  | ninf => rfl
  | nan => rfl

/-- **Probability at least 1 always happens**: every uniform draw in `[0, 1)` is below it. -/
theorem draw_below_ge_one (q : ℚ) (hq : q < 1) (p : F) (hp : ge p (.fin 1) = true) : F64.lt (.fin q) p = true := by
  cases p with
  | fin r =>
    simp only [ge, F64.lt, Bool.or_eq_true, decide_eq_true_eq, Bool.and_eq_true, beq_iff_eq, F.fin.injEq] at hp ⊢
    rcases hp with h | ⟨h, _⟩
    · exact hq.trans h
    · rw [h]
      exact hq
  | pinf => rfl
  | ninf => simp [ge, F64.lt] at hp
  | nan => simp [ge, F64.lt] at hp

end FAgents
end Bourse

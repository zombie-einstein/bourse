/-
The reference engine's match loop in closed form: what an aggressor executes is the *greedy
allocation* of its volume over the admissible resting orders in queue order. The statements are about the
result of `Ref.matchQ` only.
-/
import Bourse.Lemmas.MatchLoop

namespace Bourse
namespace Ref

/-- The record at index `j` (a default record if there is none; every use is guarded by validity).
On tables of records; `Bourse.volOf` (Lemmas/Agg) is the twin of `volOf` on tables of entries. -/
def orderAt (os : List Order) (j : Nat) : Order := (os[j]?).getD default

def volOf (os : List Order) (j : Nat) : Nat := (orderAt os j).vol

/-- Greedy allocation of `V` units over resting volumes taken in priority order: each resting order
gives the smaller of what is asked for and what it has, and the rest is asked of the next one. -/
def alloc : Nat → List Nat → List Nat
  | _, [] => []
  | V, v :: vs => if V = 0 then [] else min V v :: alloc (V - min V v) vs

/-- How many resting orders the allocation exhausts (they leave the queue). -/
def fullCount : Nat → List Nat → Nat
  | _, [] => 0
  | V, v :: vs => if V = 0 then 0 else if v ≤ V then 1 + fullCount (V - v) vs else 0

theorem alloc_zero (vs : List Nat) : alloc 0 vs = [] := by
  cases vs <;> simp [alloc]

theorem fullCount_zero (vs : List Nat) : fullCount 0 vs = 0 := by
  cases vs <;> simp [fullCount]

/-- **The allocation hands out exactly `min V (Σ volumes)`.** -/
theorem alloc_sum (V : Nat) (vs : List Nat) : (alloc V vs).sum = min V vs.sum := by
  induction vs generalizing V with
  | nil => simp [alloc]
  | cons v vs ih =>
    unfold alloc
    split
    · subst_vars; simp
    · simp only [List.sum_cons, ih]
      omega

theorem alloc_length_le (V : Nat) (vs : List Nat) : (alloc V vs).length ≤ vs.length := by
  induction vs generalizing V with
  | nil => simp [alloc]
  | cons v vs ih =>
    unfold alloc
    split
    · simp
    · simp only [List.length_cons]; have := ih (V - min V v); omega

theorem alloc_le (V : Nat) (vs : List Nat) : ∀ i (h : i < (alloc V vs).length) (h' : i < vs.length),
    (alloc V vs)[i] ≤ vs[i] := by
  induction vs generalizing V with
  | nil => intro i h; simp [alloc] at h
  | cons v vs ih =>
    intro i h h'
    unfold alloc at h ⊢
    split
    · rename_i hV; simp [hV] at h
    · rename_i hV
      simp only [hV, ↓reduceIte] at h
      cases i with
      | zero => simp; omega
      | succ i =>
        simp only [List.getElem_cons_succ]
        exact ih _ i (by simpa using h) (by simpa using h')

/-- Every resting order before the last one touched is emptied. -/
theorem alloc_full_before_last (V : Nat) (vs : List Nat) : ∀ i (h : i + 1 < (alloc V vs).length) (h' : i < vs.length),
    (alloc V vs)[i]'(by omega) = vs[i] := by
  induction vs generalizing V with
  | nil => intro i h; simp [alloc] at h
  | cons v vs ih =>
    intro i h h'
    unfold alloc at h ⊢
    split
    · rename_i hV; simp [hV] at h
    · rename_i hV
      simp only [hV, ↓reduceIte, List.length_cons] at h
      cases i with
      | zero =>
        simp only [List.getElem_cons_zero]
        -- a second fill exists, so something was left to ask for: the first order was emptied
        by_cases hle : v ≤ V
        · omega
        · have : V - min V v = 0 := by omega
          rw [this, alloc_zero] at h
          simp at h
      | succ i =>
        simp only [List.getElem_cons_succ]
        exact ih _ i (by omega) (by simpa using h')

theorem orderAt_set_ne (os : List Order) (j i : Nat) (o' : Order) (h : i ≠ j) : orderAt (os.set j o') i = orderAt os i := by
  simp [orderAt, List.getElem?_set_ne (Ne.symm h)]

theorem volOf_set_ne (os : List Order) (j i : Nat) (o' : Order) (h : i ≠ j) : volOf (os.set j o') i = volOf os i := by
  simp [volOf, orderAt_set_ne os j i o' h]

/-- What the loop leaves behind, in closed form. -/
structure Outcome (t : Nat) (q : List Nat) (st : MatchSt) (r : List Nat × MatchSt) : Prop where
  trades : r.2.trades = st.trades ++
    ((q.takeWhile fun j => admits st.agg.side st.agg.price (priceOf st.orders j)).zip
      (alloc st.agg.vol ((q.takeWhile fun j => admits st.agg.side st.agg.price (priceOf st.orders j)).map (volOf st.orders)))).map
      (fun x => mkTrade t (orderAt st.orders x.1) st.agg.id x.2)
  tradeVol : r.2.tradeVol = st.tradeVol +
    (alloc st.agg.vol ((q.takeWhile fun j => admits st.agg.side st.agg.price (priceOf st.orders j)).map (volOf st.orders))).sum
  aggVol : r.2.agg.vol = st.agg.vol -
    (alloc st.agg.vol ((q.takeWhile fun j => admits st.agg.side st.agg.price (priceOf st.orders j)).map (volOf st.orders))).sum
  aggSame : r.2.agg.side = st.agg.side ∧ r.2.agg.price = st.agg.price ∧ r.2.agg.id = st.agg.id ∧
            r.2.agg.trader = st.agg.trader ∧ r.2.agg.svol = st.agg.svol ∧ r.2.agg.arr = st.agg.arr
  orders : r.2.orders =
    ((q.takeWhile fun j => admits st.agg.side st.agg.price (priceOf st.orders j)).zip
      (alloc st.agg.vol ((q.takeWhile fun j => admits st.agg.side st.agg.price (priceOf st.orders j)).map (volOf st.orders)))).foldl
      (fun os x => os.set x.1 (filledBy t (orderAt os x.1) x.2)) st.orders
  queue : r.1 = q.drop
    (fullCount st.agg.vol ((q.takeWhile fun j => admits st.agg.side st.agg.price (priceOf st.orders j)).map (volOf st.orders)))

/-- The closed form with the admission test `p` and the volumes `vol` read from anywhere that agrees
with the state on the queue. A fill changes neither for the ids still queued, so the recursive call
speaks of the same `p` and `vol` and nothing has to be rewritten. -/
theorem matchQ_closed (t : Nat) (p : Nat → Bool) (vol : Nat → Nat) (q : List Nat) (st : MatchSt) (hnd : q.Nodup)
    (hv : ∀ j ∈ q, j < st.orders.length)
    (hp : ∀ j ∈ q, p j = admits st.agg.side st.agg.price (priceOf st.orders j) ∧ vol j = volOf st.orders j) :
    (matchQ t q st).2.trades = st.trades ++
      ((q.takeWhile p).zip (alloc st.agg.vol ((q.takeWhile p).map vol))).map
        (fun x => mkTrade t (orderAt st.orders x.1) st.agg.id x.2) ∧
    (matchQ t q st).2.tradeVol = st.tradeVol + (alloc st.agg.vol ((q.takeWhile p).map vol)).sum ∧
    (matchQ t q st).2.agg.vol = st.agg.vol - (alloc st.agg.vol ((q.takeWhile p).map vol)).sum ∧
    (matchQ t q st).2.orders =
      ((q.takeWhile p).zip (alloc st.agg.vol ((q.takeWhile p).map vol))).foldl
        (fun os x => os.set x.1 (filledBy t (orderAt os x.1) x.2)) st.orders ∧
    (matchQ t q st).1 = q.drop (fullCount st.agg.vol ((q.takeWhile p).map vol)) := by
  revert hnd hv hp
  refine matchQ_induct (motive := fun q st r => q.Nodup → (∀ j ∈ q, j < st.orders.length) →
    (∀ j ∈ q, p j = admits st.agg.side st.agg.price (priceOf st.orders j) ∧ vol j = volOf st.orders j) →
    r.2.trades = st.trades ++ ((q.takeWhile p).zip (alloc st.agg.vol ((q.takeWhile p).map vol))).map
        (fun x => mkTrade t (orderAt st.orders x.1) st.agg.id x.2) ∧
    r.2.tradeVol = st.tradeVol + (alloc st.agg.vol ((q.takeWhile p).map vol)).sum ∧
    r.2.agg.vol = st.agg.vol - (alloc st.agg.vol ((q.takeWhile p).map vol)).sum ∧
    r.2.orders = ((q.takeWhile p).zip (alloc st.agg.vol ((q.takeWhile p).map vol))).foldl
        (fun os x => os.set x.1 (filledBy t (orderAt os x.1) x.2)) st.orders ∧
    r.1 = q.drop (fullCount st.agg.vol ((q.takeWhile p).map vol))) ?_ ?_ ?_ ?_ q st
  · intro st _ _ _
    simp [alloc, fullCount]
  · intro j q st h _ hv hp
    have hget : st.orders[j]? = some (st.orders[j]'(hv j List.mem_cons_self)) := List.getElem?_eq_getElem _
    rcases h _ hget with hV | had
    · simp [hV, alloc_zero, fullCount_zero]
    · have hpj : ¬ p j = true := by simp [(hp j List.mem_cons_self).1, priceOf, hget, had]
      simp [List.takeWhile_cons_of_neg hpj, alloc, fullCount]
  · intro j q st pass hget hVpos had hlt _ _ hp
    have hV : st.agg.vol ≠ 0 := Nat.ne_of_gt hVpos
    have hpj : p j = true := by simp [(hp j List.mem_cons_self).1, priceOf, hget, had]
    have hvol : vol j = pass.vol := by simp [(hp j List.mem_cons_self).2, volOf, orderAt, hget]
    have hat : orderAt st.orders j = pass := by simp [orderAt, hget]
    have hmin : min st.agg.vol pass.vol = st.agg.vol := Nat.min_eq_left (Nat.le_of_lt hlt)
    simp [List.takeWhile_cons_of_pos hpj, hvol, alloc, fullCount, hV, hmin, alloc_zero, hat, fillSt, Nat.not_le_of_lt hlt]
  · -- the resting order is emptied: the loop goes on, and sees the same `p` and `vol` on what is left
    intro j q st pass r hget hVpos had hle IH hnd hv hp
    have hV : st.agg.vol ≠ 0 := Nat.ne_of_gt hVpos
    have hpj : p j = true := by simp [(hp j List.mem_cons_self).1, priceOf, hget, had]
    have hvol : vol j = pass.vol := by simp [(hp j List.mem_cons_self).2, volOf, orderAt, hget]
    have hat : orderAt st.orders j = pass := by simp [orderAt, hget]
    have hmin : min st.agg.vol pass.vol = pass.vol := Nat.min_eq_right hle
    obtain ⟨hjq, hndq⟩ := List.nodup_cons.mp hnd
    have hne : ∀ i ∈ q, i ≠ j := fun i hi hij => hjq (hij ▸ hi)
    obtain ⟨T, TV, AV, OS, Q⟩ := IH hndq (fun i hi => by simpa [fillSt] using hv i (List.mem_cons_of_mem _ hi))
      (fun i hi => by
        obtain ⟨h1, h2⟩ := hp i (List.mem_cons_of_mem _ hi)
        exact ⟨by rw [h1]; simp [fillSt, priceOf_set_same hget (filledBy_price ..)],
          by rw [h2]; exact (volOf_set_ne st.orders j i _ (hne i hi)).symm⟩)
    have hagg : (fillSt t st j pass).agg.vol = st.agg.vol - pass.vol := by simp [fillSt, hmin]
    rw [hagg] at T TV AV OS Q
    simp only [List.takeWhile_cons_of_pos hpj, List.map_cons, hvol, alloc, fullCount, hV, ↓reduceIte, hmin, hle,
      List.zip_cons_cons, List.foldl_cons, List.sum_cons, hat]
    refine ⟨?_, ?_, ?_, by simpa only [fillSt, hmin] using OS, ?_⟩
    · rw [T]
      simp only [fillSt, hmin, List.append_assoc, List.singleton_append, List.append_cancel_left_eq, List.cons.injEq,
        true_and, filledBy_id]
      -- the other records sit where they sat
      refine List.map_congr_left fun x hx => ?_
      rw [orderAt_set_ne _ _ _ _ (hne _ ((List.takeWhile_sublist p).subset (List.of_mem_zip hx).1))]
    · rw [TV]
      simp only [fillSt, hmin]
      omega
    · rw [AV]
      omega
    · rw [Q, Nat.add_comm, List.drop_succ_cons]

/-- **Closed form of the match loop.** For a queue of distinct, existing ids: the trades are the
greedy allocation of the aggressor's volume over the longest admissible prefix of the queue, one
trade per allocation, at each resting order's own price; emptied orders leave the queue. -/
theorem matchQ_outcome (t : Nat) (q : List Nat) (st : MatchSt) (hnd : q.Nodup) (hv : ∀ j ∈ q, j < st.orders.length) :
    Outcome t q st (matchQ t q st) := by
  obtain ⟨h1, h2, h3, h4, h5⟩ := matchQ_closed t (fun j => admits st.agg.side st.agg.price (priceOf st.orders j))
    (volOf st.orders) q st hnd hv fun _ _ => ⟨rfl, rfl⟩
  have hi := (matchQ_rel (filled_fillRel t) q st).2.1.1
  exact ⟨h1, h2, h3, ⟨hi.side, hi.price, hi.id, hi.trader, hi.svol, hi.arr⟩, h4, h5⟩

/-- The aggressor's status and end time when the loop returns (it arrived with volume left): Filled,
ended now, exactly when nothing is left of it; otherwise as it arrived. -/
theorem matchQ_agg_status (t : Nat) (q : List Nat) (st : MatchSt) (hv : ∀ j ∈ q, j < st.orders.length) (hV : 0 < st.agg.vol) :
    (matchQ t q st).2.agg.status = (if (matchQ t q st).2.agg.vol = 0 then .filled else st.agg.status) ∧
    (matchQ t q st).2.agg.endt = (if (matchQ t q st).2.agg.vol = 0 then t else st.agg.endt) :=
  (matchQ_agg t q st).2 hV

/-- Matching never changes a price: the table after the loop prices every id as before. -/
theorem fold_priceOf (t : Nat) (l : List (Nat × Nat)) (os : List Order) (i : Nat) :
    priceOf (l.foldl (fun os x => os.set x.1 (filledBy t (orderAt os x.1) x.2)) os) i = priceOf os i := by
  induction l generalizing os with
  | nil => rfl
  | cons x l ih =>
    simp only [List.foldl_cons]
    rw [ih]
    by_cases hx : x.1 < os.length
    · have hget : os[x.1]? = some os[x.1] := List.getElem?_eq_getElem hx
      exact priceOf_set_same hget (by rw [filledBy_price]; simp [orderAt, hget]) i
    · rw [List.set_eq_of_length_le (Nat.le_of_not_lt hx)]

/-- On a queue sorted by price priority the admissible orders form a prefix: the longest admissible
prefix is *every* admissible resting order (nothing admissible is skipped). -/
theorem admissible_prefix_is_all (os : List Order) (sd : Side) (limit : Nat) (q : List Nat)
    (hs : q.Pairwise (fun i j => ahead sd.opp (priceOf os i) (priceOf os j) = true)) :
    q.takeWhile (fun j => admits sd limit (priceOf os j)) = q.filter (fun j => admits sd limit (priceOf os j)) := by
  induction q with
  | nil => rfl
  | cons j q ih =>
    obtain ⟨hj, hq⟩ := List.pairwise_cons.mp hs
    simp only [List.takeWhile_cons, List.filter_cons]
    split
    · rw [ih hq]
    · -- the head is not admissible; everything behind it is priced no better
      rename_i hna
      exact (List.filter_eq_nil_iff.mpr fun i hi => by
        simpa using not_admitted_behind sd limit _ _ (by simpa using hna) (hj i hi)).symm

end Ref
end Bourse

/-
Whatever the built-in agents do is a history of environment operations: between two steps every
agent `update` — random, noise or momentum, alone or in (nested) derived sets, for every sampler and
every `tanh` — amounts to a sequence of SUBMISSIONS (`place_order` / `cancel_order` of the environment),
and a whole simulation alternates such sequences with steps. So every theorem about environment
histories (C08, C10, C11, C14) and, per asset, about book histories speaks about every simulation.
-/
import Bourse.Model.Sim
import Bourse.Props.C10
import Bourse.Lemmas.TraderTurn

namespace Bourse
open Bourse.Props.C10

theorem MEnv.runOps_append (s : MEnv × Xoro) (a b : List MEnv.EOp) :
    MEnv.runOps s (a ++ b) = MEnv.runOps (MEnv.runOps s a) b := by
  induction a generalizing s with
  | nil => rfl
  | cons op rest ih => simp only [List.cons_append, MEnv.runOps]; exact ih _

/-- `e'` is reached from `e` by submissions only (whatever the generator: submissions do not draw). -/
def Subs (e e' : MEnv) : Prop :=
  ∃ ops : List MEnv.EOp, (∀ op ∈ ops, IsSubmission op) ∧ ∀ g, MEnv.runOps (e, g) ops = (e', g)

theorem Subs.refl (e : MEnv) : Subs e e := ⟨[], by simp, fun _ => rfl⟩

theorem Subs.trans {a b c : MEnv} (h1 : Subs a b) (h2 : Subs b c) : Subs a c := by
  obtain ⟨o1, s1, r1⟩ := h1
  obtain ⟨o2, s2, r2⟩ := h2
  exact ⟨o1 ++ o2, List.forall_mem_append.mpr ⟨s1, s2⟩, fun g => by rw [MEnv.runOps_append, r1 g, r2 g]⟩

theorem Subs.unseen {e e' : MEnv} (h : Subs e e') : Unseen e e' := by
  obtain ⟨ops, hs, hr⟩ := h
  have := (Unseen.runOps (e, Xoro.seed 0) ops hs).2
  rwa [hr] at this

theorem Subs.cancel (e : MEnv) (a id : Nat) : Subs e (e.cancelOrder a id) :=
  ⟨[.qcancel a id], by simp [IsSubmission], fun _ => rfl⟩

theorem Subs.place (e : MEnv) (a : Nat) (sd : Side) (vol tr : Nat) (p : Option Nat) :
    Subs e (e.placeOrder a sd vol tr p).1 :=
  ⟨[.submit a sd vol tr p], by simp [IsSubmission], fun _ => rfl⟩

namespace FAgents

theorem cancelAll_subs (e : MEnv) (a : Nat) (ids : List Nat) : Subs e (cancelAll e a ids) := by
  induction ids generalizing e with
  | nil => exact Subs.refl e
  | cons id rest ih => exact (Subs.cancel e a id).trans (ih _)

theorem submitLimit_subs {e : MEnv} {a : Nat} {sd : Side} {vol tr price id : Nat} {e' : MEnv}
    (h : submitLimit e a sd vol tr price = some (id, e')) : Subs e e' := by
  have := Subs.place e a sd vol tr (some price)
  rwa [submitLimit_eq h] at this

theorem submitMarket_subs {e : MEnv} {a : Nat} {sd : Side} {vol tr : Nat} {e' : MEnv}
    (h : submitMarket e a sd vol tr = some e') : Subs e e' := by
  obtain ⟨id, hp⟩ := submitMarket_eq h
  have := Subs.place e a sd vol tr none
  rwa [hp] at this

theorem turn_subs {a tick vol : Nat} {mid : F} {tr : Nat} {lim : Option (Side × F)} {mkt : Option Side}
    {live : List Nat} {e : MEnv} {r : List Nat × MEnv} (h : turn a tick vol mid tr lim mkt live e = some r) :
    Subs e r.2 :=
  turn_inv (fun x => Subs e x) (fun _ _ _ _ _ he hs => he.trans (submitLimit_subs hs))
    (fun _ _ _ _ he hs => he.trans (submitMarket_subs hs)) (Subs.refl e) h

theorem turnLoop_subs {buys sells smp a tick vol mid f} (trs : List Nat)
    (hf : ∀ tr ∈ trs, IsTurn buys sells smp a tick vol mid tr (f tr))
    {live e g r} (h : turnLoop f trs live e g = some r) : Subs e r.2.1 :=
  turnLoop_inv (fun x => Subs e x) trs hf (fun _ _ _ _ _ _ _ _ _ he ht => he.trans (turn_subs ht)) (Subs.refl e) h

theorem noiseUpdate_subs {c : NoiseP} {smp : Sampler} {orders : List Nat} {e : MEnv} {g : Xoro}
    {live' : List Nat} {e' : MEnv} {g' : Xoro} (h : noiseUpdate c smp orders e g = some (live', e', g')) :
    Subs e e' := by
  rw [noiseUpdate_eq] at h
  obtain ⟨r, _, h⟩ := Option.bind_eq_some_iff.mp h
  obtain ⟨mid, _, h⟩ := Option.bind_eq_some_iff.mp h
  exact (cancelAll_subs e c.asset _).trans (turnLoop_subs _ (fun tr _ => noiseTrader_turn c smp mid tr) h)

theorem momUpdate_subs {c : MomP} {smp : Sampler} {th : F → F} {s : MomState} {e : MEnv} {g : Xoro}
    {s' : MomState} {e' : MEnv} {g' : Xoro} (h : momUpdate c smp th s e g = some (s', e', g')) :
    Subs e e' := by
  rw [momUpdate_eq] at h
  obtain ⟨r, _, h⟩ := Option.bind_eq_some_iff.mp h
  obtain ⟨mid, _, h⟩ := Option.bind_eq_some_iff.mp h
  obtain ⟨x, hx, h⟩ := Option.map_eq_some_iff.mp h
  cases h
  exact (cancelAll_subs e c.asset _).trans (turnLoop_subs _ (fun tr _ => momTrader_turn c smp mid _ _ _ tr) hx)

end FAgents

namespace RandomAgents

theorem placeRandom_subs {c : RandomAgents} {n : Nat} {e : MEnv} {g : Xoro} {o : Option Nat} {e' : MEnv} {g' : Xoro}
    (h : placeRandom c n e g = some (o, e', g')) : Subs e e' := by
  unfold placeRandom at h
  -- three draws, each of which may run out of fuel, then the placement
  split at h
  · cases h
  split at h
  · cases h
  split at h
  · cases h
  split at h
  · cases h; exact Subs.place _ _ _ _ _ _
  · cases h

theorem updateOne_subs {c : RandomAgents} {n : Nat} {cur : Option Nat} {e : MEnv} {g : Xoro} {o : Option Nat} {e' : MEnv}
    {g' : Xoro} (h : updateOne c n cur e g = some (o, e', g')) : Subs e e' := by
  unfold updateOne at h
  split at h
  · split at h
    · cases h; exact Subs.cancel _ _ _
    · exact placeRandom_subs h
  · cases h; exact Subs.refl e

theorem updateFromWith_subs (f : Nat → Option Nat → MEnv → Xoro → Option (Option Nat × MEnv × Xoro))
    (hf : ∀ n cur e g o e' g', f n cur e g = some (o, e', g') → Subs e e')
    (n : Nat) (curs : List (Option Nat)) {e : MEnv} {g : Xoro}
    {os : List (Option Nat)} {e' : MEnv} {g' : Xoro} (h : updateFromWith f n curs e g = some (os, e', g')) : Subs e e' := by
  induction curs generalizing n e g os e' g' with
  | nil => cases h; exact Subs.refl e
  | cons cur rest ih =>
    simp only [updateFromWith] at h
    split at h
    · cases h
    · rename_i o1 e1 g1 h1
      split at h
      · cases h
      · rename_i os2 e2 g2 h2
        cases h
        exact (hf _ _ _ _ _ _ _ h1).trans (ih (n + 1) h2)

theorem update_subs {c : RandomAgents} {e : MEnv} {g : Xoro} {c' : RandomAgents} {e' : MEnv} {g' : Xoro}
    (h : c.update e g = some (c', e', g')) : Subs e e' := by
  obtain ⟨r, hu, ⟨⟩⟩ := Option.map_eq_some_iff.1 h
  exact updateFromWith_subs (updateOne c) (fun _ _ _ _ _ _ _ h => updateOne_subs h) 0 c.orders hu

end RandomAgents

mutual
/-- **An update of any built-in agent — or of any derived set of them — is a sequence of environment
submissions**, for every sampler, every `tanh`, every generator state. -/
theorem SimAgent.update_subs (th : F → F) : ∀ (a : SimAgent) (e : MEnv) (g : Xoro) (a' : SimAgent) (e' : MEnv) (g' : Xoro),
    a.update th e g = some (a', e', g') → Subs e e'
  | .random c, e, g, a', e', g', h => by
    obtain ⟨r, hu, ⟨⟩⟩ := Option.map_eq_some_iff.1 h
    exact RandomAgents.update_subs hu
  | .noise c smp os, e, g, a', e', g', h => by
    obtain ⟨r, hu, ⟨⟩⟩ := Option.map_eq_some_iff.1 h
    exact FAgents.noiseUpdate_subs hu
  | .momentum c smp s, e, g, a', e', g', h => by
    obtain ⟨r, hu, ⟨⟩⟩ := Option.map_eq_some_iff.1 h
    exact FAgents.momUpdate_subs hu
  | .set ms, e, g, a', e', g', h => by
    obtain ⟨r, hu, ⟨⟩⟩ := Option.map_eq_some_iff.1 h
    exact SimAgents.updateAll_subs th ms e g _ _ _ hu
theorem SimAgents.updateAll_subs (th : F → F) : ∀ (as : SimAgents) (e : MEnv) (g : Xoro) (as' : SimAgents) (e' : MEnv) (g' : Xoro),
    as.updateAll th e g = some (as', e', g') → Subs e e'
  | .nil, e, g, as', e', g', h => by
    cases h; exact Subs.refl e
  | .cons a rest, e, g, as', e', g', h => by
    simp only [SimAgents.updateAll] at h
    split at h
    · cases h
    · rename_i a1 e1 g1 h1
      split at h
      · cases h
      · rename_i r2 e2 g2 h2
        cases h
        exact (SimAgent.update_subs th a e g a1 e1 g1 h1).trans (SimAgents.updateAll_subs th rest e1 g1 _ _ _ h2)
end

/-- The environments a simulation passes through: submissions and steps (each step with the generator
state the simulation has reached). -/
inductive SimReach (e0 : MEnv) : MEnv → Prop
  | refl : SimReach e0 e0
  | subs {e e'} : SimReach e0 e → Subs e e' → SimReach e0 e'
  | step {e} (g : Xoro) : SimReach e0 e → SimReach e0 (e.step g).1

/-- **Induction over a simulation.** A family `I j` of environment predicates, `j` the number of steps
taken, holds at the end of a run if it holds at the start, submissions preserve each `I j` and a step
(with any generator) leads from `I j` to `I (j + 1)`. -/
theorem simLoopG_induction {I : Nat → MEnv → Prop} (subs : ∀ j e e', Subs e e' → I j e → I j e')
    (step : ∀ j e g, I j e → I (j + 1) (e.step g).1) {th : F → F} {n : Nat} {as : SimAgents} {e : MEnv} {g : Xoro}
    {as' : SimAgents} {e' : MEnv} {g' : Xoro} (h : simLoopG th n as e g = some (as', e', g')) {k : Nat} (h0 : I k e) :
    I (k + n) e' := by
  induction n generalizing as e g k with
  | zero => cases h; exact h0
  | succ n ih =>
    simp only [simLoopG] at h
    split at h
    · cases h
    · rename_i a1 e1 g1 hu
      rw [show k + (n + 1) = k + 1 + n by omega]
      exact ih h (step k e1 g1 (subs k e e1 (SimAgents.updateAll_subs th as e g a1 e1 g1 hu) h0))

/-- **A whole simulation is a history of environment operations**: whatever agents are composed,
for every sampler, every `tanh`, every seed and every number of steps, the environment at the end of
the run is reached from the initial one by submissions and steps only. -/
theorem simLoopG_reach (th : F → F) (n : Nat) (as : SimAgents) (e : MEnv) (g : Xoro) (as' : SimAgents) (e' : MEnv) (g' : Xoro)
    (h : simLoopG th n as e g = some (as', e', g')) : SimReach e e' :=
  simLoopG_induction (I := fun _ => SimReach e) (k := 0) (fun _ _ _ hs hr => hr.subs hs) (fun _ _ g hr => hr.step g) h .refl

end Bourse

/-
`Inv` holds in every state reachable from a new book by valid operations (`ValidOp`: volumes at
least 1, prices within 32 bits) that do not fault (`NoFault`).
-/
import Bourse.Lemmas.Reload
import Bourse.Lemmas.ValidOp

namespace Bourse

theorem inv_step {b : Book} (h : Inv b) (op : Op) (hv : ValidOp op) (hnf : (b.step op).1.faulted = false) :
    Inv (b.step op).1 := by
  refine Book.step_shapes (motive := fun op r => ValidOp op → r.1.faulted = false → Inv r.1) b
    (fun sd vol tr p hv _ => h.create sd vol tr p hv.1 hv.2) (fun id _ hnf => h.place id hnf)
    (fun sd vol tr p id _ hv hnf => (h.create sd vol tr p hv.1 hv.2).place id hnf)
    (fun sd vol tr p _ _ _ hv _ => h.create sd vol tr p hv.1 hv.2)
    (fun id _ hnf => h.cancel id hnf) (fun id p v hv hnf => h.modify id p v hv.1 hv.2 hnf)
    (fun e r hr => by cases e <;> exact hr) (fun _ ha _ _ => h.admin ha)
    (fun _ _ _ => h) (fun _ _ _ => by rw [reload_eq h]; exact h) op hv hnf

/-- A history runs without faulting (no unknown id, no `u32` overflow). -/
def NoFault : Book → List Op → Prop
  | _, [] => True
  | b, op :: rest => (b.step op).1.faulted = false ∧ NoFault (b.step op).1 rest

/-- **Every reachable state.** After any valid, fault-free history from a state satisfying the
invariant — in particular from a new book — the invariant holds. -/
theorem inv_run {b : Book} (h : Inv b) (ops : List Op) (hv : ∀ op ∈ ops, ValidOp op) (hnf : NoFault b ops) :
    Inv (b.run ops) := by
  induction ops generalizing b with
  | nil => exact h
  | cons op rest ih =>
    simp only [Book.run, List.foldl_cons]
    exact ih (inv_step h op (hv op List.mem_cons_self) hnf.1) (fun o ho => hv o (List.mem_cons_of_mem _ ho)) hnf.2

theorem inv_reachable (t0 tick : Nat) (trading : Bool) (ht : 0 < tick) (ops : List Op)
    (hv : ∀ op ∈ ops, ValidOp op) (hnf : NoFault (Book.new t0 tick trading) ops) :
    Inv ((Book.new t0 tick trading).run ops) := inv_run (inv_new t0 tick trading ht) ops hv hnf

end Bourse

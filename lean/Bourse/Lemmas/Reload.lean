/-
`load (save b) = b` for every book satisfying `Inv` (C07): the rebuild loop of the snapshot loader
re-creates both side indexes exactly.
-/
import Bourse.Lemmas.BookInvOps

namespace Bourse

/-- Re-inserting an entry that was just removed gives the side back, literally: on a side under
the invariant `insert_order` undoes `remove_order`. (Stated for its own sake; `reload_eq` below goes
through `SideInv.ext` directly.) -/
theorem SideInv.insert_remove {os : List Entry} {sd : Side} {s : SideS} {stamp : Nat} (h : SideInv os sd s stamp)
    (pk st id : Nat) (e : Entry) (hm : ((pk, st), id) ∈ s.orders) (he : os[id]? = some e) :
    (s.removeOrder pk st e.order.vol).insertOrder pk st id e.order.vol = s := by
  have hr := h.queued hm he
  have hvo := volOf_of_get he
  -- removing keeps the invariant, re-inserting keeps it again, and the queue is the old one:
  -- a side under the invariant is determined by its queue
  have hrem : SideInv os sd (s.removeOrder pk st e.order.vol) stamp := by
    have := h.remove pk st id e hm
    rwa [set_of_getElem? he, hvo] at this
  have hfresh : SMap.find? (pk, st) (s.removeOrder pk st e.order.vol).orders = none := by
    rw [removeOrder_orders, SMap.find?_erase _ _ _ h.so, if_pos rfl]
  have hb : (s.removeOrder pk st e.order.vol).vol + e.order.vol < P32 := by
    have h3 := h.bnd
    rw [h.tot, totalVol_split os (h.level_of_mem hm).1, hvo, Nat.add_comm] at h3
    rwa [hrem.tot, removeOrder_orders]
  have hins : SideInv os sd ((s.removeOrder pk st e.order.vol).insertOrder pk st id e.order.vol) stamp := by
    have := hrem.insert pk st id e hfresh (by rw [removeOrder_orders]; exact h.not_mem_erase hm)
      (List.getElem?_eq_some_iff.mp he).1 (Nat.le_refl _) hr.and
      (hrem.insert_nofault pk st id e.order.vol hr.vol_pos hb)
    rwa [set_of_getElem? he] at this
  refine hins.ext h ?_
  rw [insertOrder_orders, removeOrder_orders]
  refine SMap.sorted_ext (SMap.sorted_insert _ _ _ (SMap.sorted_erase _ _ h.so)) h.so (fun k => ?_)
  rw [SMap.find?_insert _ _ _ _ (SMap.sorted_erase _ _ h.so), SMap.find?_erase _ _ _ h.so]
  by_cases hk : k = (pk, st)
  · rw [if_pos hk, hk, SMap.find?_of_mem h.so hm]
  · rw [if_neg hk, if_neg hk]

def pick : Side → SideS × SideS → SideS
  | .bid, p => p.1
  | .ask, p => p.2

def setPick : Side → SideS → SideS × SideS → SideS × SideS
  | .bid, s, T => (s, T.2)
  | .ask, s, T => (T.1, s)

theorem pick_setPick (sd : Side) (s : SideS) (T : SideS × SideS) : pick sd (setPick sd s T) = s := by cases sd <;> rfl
theorem pick_setPick_opp (sd : Side) (s : SideS) (T : SideS × SideS) :
    pick sd.opp (setPick sd s T) = pick sd.opp T := by cases sd <;> rfl

theorem loadStep_active {e : Entry} (ha : e.order.status = .active) (T : SideS × SideS) (st : Nat) :
    Book.loadStep (T.1, T.2, st) e =
      ((setPick e.order.side ((pick e.order.side T).insertOrder e.key.pk e.key.st e.order.id e.order.vol) T).1,
       (setPick e.order.side ((pick e.order.side T).insertOrder e.key.pk e.key.st e.order.id e.order.vol) T).2,
       max st (e.key.st + 1)) := by
  simp only [Book.loadStep, ha, if_true]
  cases e.order.side <;> rfl

/-- A part of a queue (no entry twice) weighs at most the whole. -/
theorem totalVol_le_of_subset (os : List Entry) {l q : SMap (Nat × Nat) Nat} (hl : l.Nodup) (hsub : ∀ x ∈ l, x ∈ q) :
    totalVol os l ≤ totalVol os q := by
  induction l generalizing q with
  | nil => exact Nat.zero_le _
  | cons x l ih =>
    obtain ⟨hx, hl'⟩ := List.nodup_cons.mp hl
    have hq := List.perm_cons_erase (hsub x List.mem_cons_self)
    have := ih (q := List.erase q x) hl' fun y hy =>
      (List.mem_erase_of_ne fun hc : y = x => hx (hc ▸ hy)).mpr (hsub y (List.mem_cons_of_mem _ hy))
    rw [totalVol_perm os hq, totalVol_cons, totalVol_cons]
    exact Nat.add_le_add_left this _

/-- The rebuilt sides after the first `i` table entries: they satisfy the side invariant and hold
exactly the queue entries of the ids below `i`. -/
structure Built (b : Book) (i : Nat) (T : SideS × SideS) : Prop where
  inv : ∀ sd, SideInv b.orders sd (pick sd T) b.stamp
  mem : ∀ sd k j, (k, j) ∈ (pick sd T).orders ↔ (k, j) ∈ (b.side sd).orders ∧ j < i

theorem built_zero (b : Book) : Built b 0 (SideS.empty, SideS.empty) where
  inv := fun sd => by cases sd <;> exact sideInv_empty _ _ _
  mem := fun sd k j => by cases sd <;> simp [pick, SideS.empty]

/-- On a queue without `i`, the ids below `i + 1` are the ids below `i`. -/
theorem mem_lt_succ_iff {q : SMap (Nat × Nat) Nat} {i : Nat} (hni : ∀ k, (k, i) ∉ q) (k : Nat × Nat) (j : Nat) :
    ((k, j) ∈ q ∧ j < i) ↔ ((k, j) ∈ q ∧ j < i + 1) :=
  and_congr_right fun hx =>
    ⟨Nat.lt_succ_of_lt, fun hlt => Nat.lt_of_le_of_ne (Nat.le_of_lt_succ hlt) fun hc => hni k (hc ▸ hx)⟩

/-- The key of queue entry `i` is not yet taken in the part rebuilt so far. -/
theorem Built.fresh {b : Book} {i : Nat} {T : SideS × SideS} (hB : Built b i T) {sd : Side} {k : Nat × Nat}
    (hso : SMap.Sorted (b.side sd).orders) (hm : (k, i) ∈ (b.side sd).orders) :
    SMap.find? k (pick sd T).orders = none := by
  cases hf : SMap.find? k (pick sd T).orders with
  | none => rfl
  | some j =>
    obtain ⟨hj, hlt⟩ := (hB.mem _ _ _).mp (SMap.mem_of_find? hf)
    exact absurd (SMap.val_unique hso hj hm) (Nat.ne_of_lt hlt)

/-- Inserting queue entry `i` into the part rebuilt so far gives the part up to `i`. -/
theorem Built.mem_insert {b : Book} {i : Nat} {T : SideS × SideS} (hB : Built b i T) {sd : Side} {k : Nat × Nat}
    {st : Nat} (hq : SideInv b.orders sd (b.side sd) st) (hm : (k, i) ∈ (b.side sd).orders) (k' : Nat × Nat) (j : Nat) :
    (k', j) ∈ SMap.insert k i (pick sd T).orders ↔ (k', j) ∈ (b.side sd).orders ∧ j < i + 1 := by
  rw [SMap.mem_insert_iff (hB.inv sd).so, hB.mem]
  constructor
  · rintro (hx | ⟨⟨hx, hlt⟩, -⟩)
    · cases hx; exact ⟨hm, Nat.lt_succ_self _⟩
    · exact ⟨hx, Nat.lt_succ_of_lt hlt⟩
  · rintro ⟨hx, hlt⟩
    by_cases hji : j = i
    · subst hji
      exact .inl (by rw [hq.unique hx hm])
    · exact .inr ⟨⟨hx, Nat.lt_of_le_of_ne (Nat.le_of_lt_succ hlt) hji⟩,
        fun hc => hji (SMap.val_unique hq.so (hc ▸ hx) hm)⟩

theorem built_step {b : Book} (h : Inv b) {i : Nat} {T : SideS × SideS} (hB : Built b i T) {e : Entry}
    (he : b.orders[i]? = some e) :
    ∃ T', Book.loadStep (T.1, T.2, b.stamp) e = (T'.1, T'.2, b.stamp) ∧ Built b (i + 1) T' := by
  by_cases ha : e.order.status = .active
  · -- an Active entry is queued on its side under its key: inserting it there adds that queue entry
    have hm := (h.active_key he ha).mem
    have hq := h.side e.order.side
    have hr := hq.queued hm he
    have hold := hB.inv e.order.side
    have hfresh := hB.fresh hq.so hm
    have hmem := hB.mem_insert hq hm
    -- no overflow: the new queue is part of the old one, whose total fits
    have hb : (pick e.order.side T).vol + e.order.vol < P32 := by
      have h1 := totalVol_le_of_subset b.orders (SMap.sorted_insert (e.key.pk, e.key.st) i _ hold.so).nodup
        (fun x hx => ((hmem x.1 x.2).mp hx).1)
      rw [totalVol_split _ (SMap.perm_insert_new _ _ _ hold.so hfresh), ← hold.tot, ← hq.tot,
        volOf_of_get he] at h1
      exact Nat.lt_of_le_of_lt (Nat.add_comm _ _ ▸ h1) hq.bnd
    have hnew := hold.insert e.key.pk e.key.st i e hfresh (fun k hk => Nat.lt_irrefl _ ((hB.mem _ _ _).mp hk).2)
      (List.getElem?_eq_some_iff.mp he).1 (Nat.le_refl _) hr.and
      (hold.insert_nofault _ _ _ _ hr.vol_pos hb)
    rw [set_of_getElem? he] at hnew
    refine ⟨setPick e.order.side ((pick e.order.side T).insertOrder e.key.pk e.key.st i e.order.vol) T, ?_, ?_, ?_⟩
    · rw [loadStep_active ha, h.ids i e he, Nat.max_eq_left hr.st_lt]
    · refine e.order.side.forall_of ?_ ?_
      · rw [pick_setPick]; exact hnew
      · rw [pick_setPick_opp]; exact hB.inv _
    · refine e.order.side.forall_of ?_ ?_
      · rw [pick_setPick]; exact hmem
      · intro k j
        rw [pick_setPick_opp, hB.mem]
        exact mem_lt_succ_iff (hq.not_mem_opp (h.side _) hm) k j
  · -- any other entry is in no queue and is skipped
    refine ⟨T, by simp [Book.loadStep, ha], hB.inv, fun sd k j => ?_⟩
    rw [hB.mem]
    exact mem_lt_succ_iff (h.not_queued he ha sd) k j

theorem built_from {b : Book} (h : Inv b) : ∀ k i T, i + k = b.orders.length → Built b i T →
    ∃ T', (b.orders.drop i).foldl Book.loadStep (T.1, T.2, b.stamp) = (T'.1, T'.2, b.stamp) ∧
      Built b b.orders.length T' := by
  intro k
  induction k with
  | zero =>
    intro i T hik hB
    have : i = b.orders.length := by omega
    subst this
    exact ⟨T, by simp, hB⟩
  | succ k ih =>
    intro i T hik hB
    have hlt : i < b.orders.length := by omega
    obtain ⟨T1, h1, hB1⟩ := built_step h hB (List.getElem?_eq_getElem hlt)
    rw [List.drop_eq_getElem_cons hlt, List.foldl_cons, h1]
    exact ih (i + 1) T1 (by omega) hB1

/-- **`load (save b) = b`**: for every book satisfying the invariant (in particular every state
reachable by valid operations), saving and loading restores the *whole* state, both rebuilt
side indexes and the stamp counter included. -/
theorem reload_eq {b : Book} (h : Inv b) : b.reload = b := by
  obtain ⟨T, hfold, hB⟩ := built_from h b.orders.length 0 (SideS.empty, SideS.empty) (by omega) (built_zero b)
  -- a side under the invariant is determined by its queue, and the rebuilt queues have the entries
  -- of the old ones
  have hside : ∀ sd, pick sd T = b.side sd := fun sd => by
    refine (hB.inv sd).ext (h.side sd) (SMap.sorted_eq_of_mem_iff (hB.inv sd).so (h.side sd).so fun x => ?_)
    rw [hB.mem sd x.1 x.2]
    refine ⟨And.left, fun hx => ⟨hx, ?_⟩⟩
    obtain ⟨e, he, -⟩ := (h.side sd).ent x.1 x.2 hx
    exact (List.getElem?_eq_some_iff.mp he).1
  have hb := hside .bid
  have ha := hside .ask
  simp only [pick, Book.side] at hb ha
  have hf := h.nofault
  cases b with
  | mk t tick tradeVol stamp ask bid orders trades trading fault =>
    simp only at hfold hf hb ha
    subst hf
    simp only [Book.reload, Book.load, Book.save, List.drop_zero] at hfold ⊢
    rw [hfold, hb, ha]

end Bourse

/-
The Durstenfeld shuffle as a function of its draws (C15): the real `shuffle` is `shuffleDraws` on
the generator's bounded draws, and on a list without duplicates different valid draw vectors give
different orders. The bounds of the generator's bounded draw live here too (`Xoro.accept_lt`,
`Xoro.genRange_lt`: a result is below the range), for `shuffleFrom_draws`, `Lemmas/Lemire` and C16.
-/
import Bourse.Model.Rng

namespace Bourse

/-- The shuffle loop with the draws given explicitly (head = the draw for the highest index). -/
def shuffleDraws {α} : Nat → List α → List Nat → List α
  | 0, l, _ => l
  | _ + 1, l, [] => l
  | i + 1, l, d :: ds => shuffleDraws i (Xoro.swap l (i + 1) d) ds

/-- All valid draw vectors for a loop starting at index `i`: the draw for index `k` is `≤ k`. -/
def validDraws : Nat → List (List Nat)
  | 0 => [[]]
  | i + 1 => (List.range (i + 2)).flatMap fun d => (validDraws i).map (d :: ·)

theorem mem_validDraws_succ {i : Nat} {ds : List Nat} :
    ds ∈ validDraws (i + 1) ↔ ∃ d r, ds = d :: r ∧ d < i + 2 ∧ r ∈ validDraws i := by
  simp only [validDraws, List.mem_flatMap, List.mem_range, List.mem_map]
  exact ⟨fun ⟨d, hd, r, hr, e⟩ => ⟨d, r, e.symm, hd, hr⟩, fun ⟨d, r, e, hd, hr⟩ => ⟨d, hd, r, hr, e.symm⟩⟩

theorem Xoro.accept_lt (range v k : Nat) (hv : v < 4294967296) (hr : 0 < range)
    (h : Xoro.accept range v = some k) : k < range := by
  simp only [Xoro.accept] at h
  split at h
  · cases h
    exact Nat.div_lt_of_lt_mul (Nat.mul_lt_mul_of_pos_right hv hr)
  · cases h

theorem Xoro.genRange_lt (range fuel : Nat) (g : Xoro) (k : Nat) (g' : Xoro) (hr : 0 < range)
    (h : Xoro.genRange range fuel g = some (k, g')) : k < range := by
  induction fuel generalizing g with
  | zero => simp [Xoro.genRange] at h
  | succ fuel ih =>
    simp only [Xoro.genRange] at h
    split at h
    · rename_i k' hk
      cases h
      refine Xoro.accept_lt range g.next32.1 _ ?_ hr hk
      simp only [Xoro.next32]; exact Nat.mod_lt _ (by decide)
    · exact ih _ h

/-- **The real shuffle is `shuffleDraws` on bounded draws.** Whatever the generator state, the
outcome of `shuffleFrom i` is the outcome of the explicit-draw loop on some valid draw vector. -/
theorem shuffleFrom_draws {α} (i : Nat) (l : List α) (g : Xoro) (l' : List α) (g' : Xoro)
    (h : Xoro.shuffleFrom i l g = some (l', g')) : ∃ ds ∈ validDraws i, l' = shuffleDraws i l ds := by
  induction i generalizing l g with
  | zero =>
    cases h
    exact ⟨[], List.mem_singleton.2 rfl, rfl⟩
  | succ i ih =>
    unfold Xoro.shuffleFrom at h
    split at h
    · cases h
    · rename_i j g1 hj
      obtain ⟨r, hr, hl'⟩ := ih _ _ h
      have hlt := Xoro.genRange_lt (i + 2) Xoro.FUEL g j g1 (by omega) hj
      exact ⟨j :: r, mem_validDraws_succ.mpr ⟨j, r, rfl, hlt, hr⟩, by rw [hl']; rfl⟩

theorem swap_getElem?_of_ne {α} (l : List α) (i j k : Nat) (h1 : k ≠ i) (h2 : k ≠ j) :
    (Xoro.swap l i j)[k]? = l[k]? := by
  unfold Xoro.swap
  split
  · simp [Ne.symm h1, Ne.symm h2]
  · rfl

theorem swap_getElem?_left {α} (l : List α) (i j : Nat) (hi : i < l.length) (hj : j < l.length) :
    (Xoro.swap l i j)[i]? = l[j]? := by
  unfold Xoro.swap
  rw [List.getElem?_eq_getElem hi, List.getElem?_eq_getElem hj]
  simp only
  by_cases hij : j = i
  · subst hij; simp [hi]
  · simp [hij, hi]

theorem Xoro.swap_perm {α} (l : List α) (i j : Nat) : (Xoro.swap l i j).Perm l := by
  unfold Xoro.swap
  split
  · rename_i a b hi hj
    obtain ⟨hi', rfl⟩ := List.getElem?_eq_some_iff.mp hi
    obtain ⟨hj', rfl⟩ := List.getElem?_eq_some_iff.mp hj
    exact List.set_set_perm hi' hj'
  · exact List.Perm.refl _

theorem shuffleDraws_perm {α} (i : Nat) (l : List α) (ds : List Nat) : (shuffleDraws i l ds).Perm l := by
  induction i generalizing l ds with
  | zero => exact List.Perm.refl _
  | succ i ih =>
    cases ds with
    | nil => exact List.Perm.refl _
    | cons d ds => exact (ih _ _).trans (Xoro.swap_perm _ _ _)

theorem Xoro.shuffle_perm {α} {l l' : List α} {g g' : Xoro} (h : Xoro.shuffle l g = some (l', g')) : l'.Perm l := by
  obtain ⟨ds, _, rfl⟩ := shuffleFrom_draws _ l g l' g' h
  exact shuffleDraws_perm _ _ _

theorem shuffleDraws_above {α} (i : Nat) (l : List α) (ds : List Nat) (hds : ds ∈ validDraws i) (k : Nat) (hk : i < k) :
    (shuffleDraws i l ds)[k]? = l[k]? := by
  induction i generalizing l ds with
  | zero => rfl
  | succ i ih =>
    obtain ⟨d, r, rfl, hd, hr⟩ := mem_validDraws_succ.mp hds
    simp only [shuffleDraws]
    rw [ih _ _ hr (by omega)]
    exact swap_getElem?_of_ne l (i + 1) d k (by omega) (by omega)

/-- **Different draws, different orders.** On a list without duplicates the explicit-draw loop is
injective on valid draw vectors. -/
theorem shuffleDraws_injective {α} (i : Nat) (l : List α) (hn : l.Nodup) (hlen : i < l.length)
    (ds ds' : List Nat) (hds : ds ∈ validDraws i) (hds' : ds' ∈ validDraws i)
    (heq : shuffleDraws i l ds = shuffleDraws i l ds') : ds = ds' := by
  induction i generalizing l ds ds' with
  | zero =>
    simp only [validDraws, List.mem_singleton] at hds hds'
    rw [hds, hds']
  | succ i ih =>
    obtain ⟨d, r, rfl, hd, hr⟩ := mem_validDraws_succ.mp hds
    obtain ⟨d', r', rfl, hd', hr'⟩ := mem_validDraws_succ.mp hds'
    simp only [shuffleDraws] at heq
    -- the element that ends at position i+1 is the drawn one
    have last : ∀ d r, d < i + 2 → r ∈ validDraws i → (shuffleDraws i (Xoro.swap l (i + 1) d) r)[i + 1]? = l[d]? :=
      fun d r hd hr => by
        rw [shuffleDraws_above _ _ _ hr (i + 1) (by omega)]
        exact swap_getElem?_left l (i + 1) d hlen (by omega)
    have hdd : d' = d := (List.getElem?_inj (by omega) hn).mp ((last d' r' hd' hr').symm.trans (heq ▸ last d r hd hr))
    subst hdd
    have hsw : (Xoro.swap l (i + 1) d').Nodup := (Xoro.swap_perm l (i + 1) d').nodup_iff.mpr hn
    have := ih (Xoro.swap l (i + 1) d') hsw (by rw [(Xoro.swap_perm l (i + 1) d').length_eq]; omega) r r' hr hr' heq
    rw [this]

end Bourse

/-
From the reference engine to the implementation model. Everything the other `Ref*` modules prove is
about `Ref` alone; here the abstraction of a state satisfying `Inv` is shown to meet their
hypotheses (`qwf_abs`, `rsorted_abs`), and each result is carried over along `step_refines` /
`run_refines`; histories of predicates on `abs b` by the one induction `run_abs_induct`.
-/
import Bourse.Lemmas.RefineStep
import Bourse.Lemmas.QueueOrder
import Bourse.Lemmas.LevelsAccount
import Bourse.Lemmas.RefLedgerStep
import Bourse.Lemmas.RefTimes
import Bourse.Lemmas.RestGrid
import Bourse.Lemmas.TradeRoles
import Bourse.Lemmas.Uncrossed
import Bourse.Lemmas.RefGreedy

namespace Bourse

/-- **Histories, once.** A predicate on reference states that every valid, fault-free operation (of a
kind `C`) keeps, from any state satisfying the invariant, holds after every such history. -/
theorem run_abs_induct {P : Ref.RState → Prop} {C : Op → Prop}
    (step : ∀ {b : Book} (op : Op), Inv b → ValidOp op → (b.step op).1.faulted = false → C op →
      P (abs b) → P (abs (b.step op).1))
    {b : Book} (h : Inv b) (h0 : P (abs b)) (ops : List Op) (hv : ∀ op ∈ ops, ValidOp op) (hc : ∀ op ∈ ops, C op)
    (hnf : NoFault b ops) : P (abs (b.run ops)) := by
  induction ops generalizing b with
  | nil => exact h0
  | cons op rest ih =>
    have hvo := hv op List.mem_cons_self
    exact ih (inv_step h op hvo hnf.1) (step op h hvo hnf.1 (hc op List.mem_cons_self) h0)
      (fun o ho => hv o (List.mem_cons_of_mem _ ho)) (fun o ho => hc o (List.mem_cons_of_mem _ ho)) hnf.2

theorem qwf_abs {b : Book} (h : Inv b) : QWf (abs b) where
  ids := by
    intro id o ho
    obtain ⟨e, he, rfl⟩ := abs_get_some.mp ho
    exact h.ids id e he
  qok := by
    intro sd j hj
    rw [abs_queue] at hj
    obtain ⟨⟨k, j'⟩, hk, rfl⟩ := List.mem_map.mp hj
    obtain ⟨e, he, ha, hs, _, _, hv, _⟩ := (h.side sd).ent k j' hk
    exact ⟨e.order, abs_get_of he, ha, hs, hv⟩
  nd := by intro sd; rw [abs_queue]; exact (h.side sd).ids_nodup

theorem rsorted_abs {b : Book} (h : Inv b) : RSorted (abs b) := by
  intro sd; rw [abs_queue]; exact queue_price_sorted h sd

theorem ledgerInv_new (t0 tick : Nat) (trading : Bool) : LedgerInv (abs (Book.new t0 tick trading)) where
  refs := by intro tr h; simp [abs, Book.new] at h
  cons := by intro id o h; simp [abs, absOrders, Book.new] at h

theorem openNoEnd_new (t0 tick : Nat) (trading : Bool) : OpenNoEnd (abs (Book.new t0 tick trading)) := by
  intro id o ho; simp [abs, absOrders, Book.new] at ho

theorem uncrossed_new (t0 tick : Nat) (trading : Bool) : RUncrossed (abs (Book.new t0 tick trading)) := by
  intro sd i j hi _
  cases sd <;> simp [abs, Book.new, absq, SideS.empty, Ref.RState.queue] at hi

theorem step_trades_abs {b : Book} (h : Inv b) (op : Op) (hv : ValidOp op) (hnf : (b.step op).1.faulted = false) :
    (b.step op).1.trades = (Ref.step (abs b) op).1.trades := by
  rw [← (step_refines h op hv hnf).1]; rfl

theorem abs_step_get {b : Book} (h : Inv b) (op : Op) (hv : ValidOp op) (hnf : (b.step op).1.faulted = false)
    {id : Nat} {o : Order} (ho : (Ref.step (abs b) op).1.orders[id]? = some o) :
    ∃ e, (b.step op).1.orders[id]? = some e ∧ e.order = o := by
  rw [← (step_refines h op hv hnf).1] at ho
  exact abs_get_some.mp ho

/-- **Transfer to the implementation model.** From a state satisfying the invariant, every valid
operation that does not fault satisfies the ledger statement on the implementation model's own
order table and trade log. -/
theorem step_ledger {b : Book} (h : Inv b) (op : Op) (hv : ValidOp op) (hnf : (b.step op).1.faulted = false) :
    StepLedger (abs b) (abs (b.step op).1) (volRequested b.tick op) := by
  rw [(step_refines h op hv hnf).1]
  exact ref_step_ledger (abs b) (qwf_abs h) op

/-- **Conservation over histories.** After any valid, fault-free history without explicit volume
modifications, starting from a state satisfying both invariants — in particular from a new book —
the ledger invariant holds. -/
theorem ledger_run {b : Book} (h : Inv b) (hl : LedgerInv (abs b)) (ops : List Op)
    (hv : ∀ op ∈ ops, ValidOp op) (hm : ∀ op ∈ ops, NoVolModify op) (hnf : NoFault b ops) :
    LedgerInv (abs (b.run ops)) :=
  run_abs_induct (C := NoVolModify) (fun {b} op h hv hnf hm hl => hl.step (by
    have hs := step_ledger h op hv hnf
    rwa [show volRequested b.tick op = fun _ o => o.vol from
      funext fun id => funext fun o => volRequested_plain b.tick op hm id o] at hs)) h hl ops hv hm hnf

/-- **Transfer to the implementation model**: in every state satisfying the invariant, a valid
operation that does not fault treats the arrival and end time of every existing order as documented,
`t` being the book time at the operation. -/
theorem step_times {b : Book} (h : Inv b) (op : Op) (hv : ValidOp op) (hnf : (b.step op).1.faulted = false)
    (id : Nat) (e : Entry) (he : b.orders[id]? = some e) :
    ∃ e', (b.step op).1.orders[id]? = some e' ∧ StepT b.t e.order e'.order := by
  obtain ⟨o', ho', hs⟩ := ref_step_times (abs b) (qwf_abs h) op id e.order (abs_get_of he)
  obtain ⟨e', he', rfl⟩ := abs_step_get h op hv hnf ho'
  exact ⟨e', he', hs⟩

/-- Open orders carry no end time after every valid fault-free history from a state satisfying the
invariant in which they carry none. -/
theorem openNoEnd_run {b : Book} (h : Inv b) (hP : OpenNoEnd (abs b)) (ops : List Op)
    (hv : ∀ op ∈ ops, ValidOp op) (hnf : NoFault b ops) : OpenNoEnd (abs (b.run ops)) :=
  run_abs_induct (C := fun _ => True) (fun {b} op h hv hnf _ hP => by
    rw [(step_refines h op hv hnf).1]; exact ref_step_openNoEnd (abs b) (qwf_abs h) hP op) h hP ops hv (fun _ _ => trivial) hnf

/-- `Ref.step_active` for the implementation model, in every state satisfying the invariant: every
record an operation appends names the operation's subject as its active order. -/
theorem book_step_active {b : Book} (h : Inv b) (op : Op) (hv : ValidOp op) (hnf : (b.step op).1.faulted = false) :
    ∃ new, (b.step op).1.trades = b.trades ++ new ∧ ∀ tr ∈ new, Ref.subject (abs b) op = some tr.active := by
  obtain ⟨new, h1, h2⟩ := Ref.step_active (abs b) (qwf_abs h).ids op
  exact ⟨new, by rw [step_trades_abs h op hv hnf, h1]; rfl, h2⟩

/-- Implementation model, every state satisfying the invariant: the passive order of every record
appended by a placement (of an existing order, or create-and-place) or by a modification was resting (Active) before the operation. -/
theorem book_passive_was_resting {b : Book} (h : Inv b) (op : Op) (hv : ValidOp op) (hnf : (b.step op).1.faulted = false)
    (hop : (∃ i, op = .place i) ∨ (∃ i, op = .ev (.new i)) ∨ (∃ i p v, op = .modify i p v) ∨ (∃ i p v, op = .ev (.modify i p v)) ∨
      (∃ sd vol tr p, op = .cap sd vol tr p)) :
    ∃ new, (b.step op).1.trades = b.trades ++ new ∧
      ∀ tr ∈ new, ∃ e, b.orders[tr.passive]? = some e ∧ e.order.status = .active := by
  have hq := qwf_abs h
  obtain ⟨new, h1, _, h3⟩ := (Ref.step_case (abs b) op).trades hq.ids
  refine ⟨new, by rw [step_trades_abs h op hv hnf, h1]; rfl, fun tr htr => ?_⟩
  obtain ⟨o, ho, hact⟩ := h3 hq tr htr
  obtain ⟨e, he, rfl⟩ := abs_get_some.mp ho
  exact ⟨e, he, hact⟩

/-- **One step.** While trading is enabled and the operation is not a disable, a valid fault-free
operation keeps the book uncrossed (and trading enabled). -/
theorem uncrossed_step {b : Book} (h : Inv b) (op : Op) (hv : ValidOp op) (hnf : (b.step op).1.faulted = false)
    (hu : RUncrossed (abs b)) (ht : b.trading = true) (hop : op ≠ .trading false) :
    RUncrossed (abs (b.step op).1) ∧ (abs (b.step op).1).trading = true := by
  rw [(step_refines h op hv hnf).1]
  refine (Ref.step_case (abs b) op).uncrossed (qwf_abs h) (rsorted_abs h) hu ht (fun id o ho hst => ?_) hv hop
  obtain ⟨e, he, rfl⟩ := abs_get_some.mp ho
  rcases hst with hn | ha
  · exact (h.newok id e he hn).2.1
  · exact (h.active_key he ha).vol_pos

/-- **Every history.** From a state satisfying the invariant, uncrossed, with trading enabled, any
valid fault-free history that never disables trading ends uncrossed. -/
theorem uncrossed_run {b : Book} (h : Inv b) (hu : RUncrossed (abs b)) (ht : b.trading = true) (ops : List Op)
    (hv : ∀ op ∈ ops, ValidOp op) (hno : ∀ op ∈ ops, op ≠ .trading false) (hnf : NoFault b ops) :
    RUncrossed (abs (b.run ops)) :=
  (run_abs_induct (P := fun s => RUncrossed s ∧ s.trading = true) (C := (· ≠ .trading false))
    (fun op h hv hnf hop hu => uncrossed_step h op hv hnf hu.1 hu.2 hop) h ⟨hu, ht⟩ ops hv hno hnf).1

/-- Reading it off the published touch prices: with both sides non-empty the best bid is strictly
below the best ask. -/
theorem bidAsk_lt_of_uncrossed {b : Book} (h : Inv b) (hu : RUncrossed (abs b))
    (hb : b.bid.orders ≠ []) (ha : b.ask.orders ≠ []) : b.bidAsk.1 < b.bidAsk.2 := by
  obtain ⟨⟨kb, ib⟩, tlb, hqb⟩ := List.exists_cons_of_ne_nil hb
  obtain ⟨⟨ka, ia⟩, tla, hqa⟩ := List.exists_cons_of_ne_nil ha
  obtain ⟨mb, hmb, hpb, _⟩ := head_price h.bid hqb
  obtain ⟨ma, hma, hpa, _⟩ := head_price h.ask hqa
  have hib : ib ∈ (abs b).queue .bid := by simp [abs, Ref.RState.queue, absq, hqb]
  have hia : ia ∈ (abs b).queue Side.bid.opp := by simp [abs, Ref.RState.queue, absq, hqa, Side.opp]
  have := hu .bid ib ia hib hia
  rw [priceOf_of_get (abs_get_of hmb), priceOf_of_get (abs_get_of hma)] at this
  simp only [Book.bidAsk, hpb, hpa]
  simpa [Ref.admits] using this

/-- **Every resting order of every reachable state has a grid price within the price range**
(transferred from the reference engine through the refinement). -/
theorem resting_on_grid (t0 tick : Nat) (trading : Bool) (ht : 0 < tick) (ops : List Op)
    (hv : ∀ op ∈ ops, ValidOp op) (hnf : NoFault (Book.new t0 tick trading) ops) (sd : Side) :
    Views.OnGrid (((Book.new t0 tick trading).run ops).orders.map (·.order)) tick sd := by
  have hi := inv_reachable t0 tick trading ht ops hv hnf
  have hr := abs_run_new t0 tick trading ht ops hv hnf
  have hg := (Ref.run_rg (Ref.rg_init t0 tick trading) ops)
  have hos : ((Book.new t0 tick trading).run ops).orders.map (·.order) = (Ref.run (Ref.init t0 tick trading) ops).orders := by
    rw [← hr]; rfl
  intro o ho
  rw [hos] at ho
  have hmem : o ∈ (Ref.run (Ref.init t0 tick trading) ops).orders := (List.mem_filter.mp ho).1
  have hact : o.status = .active := by
    have := (List.mem_filter.mp ho).2
    simp only [Bool.and_eq_true, decide_eq_true_eq] at this
    exact this.1
  have h1 := (hg.1 o hmem).1 hact
  rw [hg.2] at h1
  refine ⟨h1, ?_⟩
  -- within the price range: an Active entry is queued, and queued orders have prices ≤ MAXP
  rw [← hos] at hmem
  obtain ⟨e, he, rfl⟩ := List.mem_map.mp hmem
  obtain ⟨i, hi', rfl⟩ := List.getElem_of_mem he
  exact (hi.active_key (List.getElem?_eq_getElem hi') hact).price_le

theorem abs_queue_ok {b : Book} (h : Inv b) (sd : Side) :
    ((abs b).queue sd).Nodup ∧ (∀ j ∈ (abs b).queue sd, j < (abs b).orders.length) ∧
    ((abs b).queue sd).Pairwise fun i j =>
      Ref.ahead sd (Ref.priceOf (abs b).orders i) (Ref.priceOf (abs b).orders j) = true :=
  ⟨(qwf_abs h).nd sd, fun _ hj => (qwf_abs h).valid hj, rsorted_abs h sd⟩

/-- **Placement in closed form on every state satisfying the invariant** (every reachable state of the
implementation model): the new trade records of `place_order` are the greedy allocation of the
order's volume over every opposite resting order that satisfies its limit, in the priority order of
the queue, at the resting orders' prices, with the placed order as the aggressor. -/
theorem place_greedy {b : Book} (h : Inv b) (id : Nat) (e : Entry) (he : b.orders[id]? = some e)
    (hnew : e.order.status = .new) (htr : b.trading = true) (hnf : (b.placeOrder id).faulted = false) :
    let s := abs b
    let o := e.order
    let adm := (s.queue o.side.opp).filter fun j => Ref.admits o.side o.price (Ref.priceOf s.orders j)
    let fs := Ref.alloc o.vol (adm.map (Ref.volOf s.orders))
    (b.placeOrder id).trades = b.trades ++ (adm.zip fs).map (fun x => Ref.mkTrade b.t (Ref.orderAt s.orders x.1) o.id x.2) ∧
    fs.sum = min o.vol (adm.map (Ref.volOf s.orders)).sum ∧
    ∃ e', (b.placeOrder id).orders[id]? = some e' ∧ e'.order.vol = o.vol - fs.sum := by
  intro s o adm fs
  have hr := place_refines h id hnf
  have hget : s.orders[id]? = some o := abs_get_of he
  obtain ⟨hnd, hval, hs⟩ := abs_queue_ok h o.side.opp
  obtain ⟨ht, o', ho', hv'⟩ := Ref.place_closed s id o hget hnew htr hnd hval hs
  refine ⟨?_, Ref.alloc_sum _ _, ?_⟩
  · have : (b.placeOrder id).trades = (abs (b.placeOrder id)).trades := rfl
    rw [this, hr]
    exact ht
  · obtain ⟨e', he', heo⟩ := abs_get_some.mp (show (abs (b.placeOrder id)).orders[id]? = some o' by rw [hr]; exact ho')
    exact ⟨e', he', by rw [heo]; exact hv'⟩

/-- **What becomes of the placed order, on every state satisfying the invariant** (C01, second sentence): with `rem` what the
greedy allocation leaves of it — `rem = 0`: Filled, ended at the book time, not queued; a market order with `rem > 0`:
the rest is discarded (Cancelled, ended at the book time, not queued); a limit order with `rem > 0`: Active and queued on
its own side at `Ref.enqueue`'s position — behind every resting order with a better or equal price, ahead of the others. -/
theorem place_rest {b : Book} (h : Inv b) (id : Nat) (e : Entry) (he : b.orders[id]? = some e)
    (hnew : e.order.status = .new) (htr : b.trading = true) (hnf : (b.placeOrder id).faulted = false) :
    let s := abs b
    let o := e.order
    let adm := (s.queue o.side.opp).filter fun j => Ref.admits o.side o.price (Ref.priceOf s.orders j)
    let rem := o.vol - (Ref.alloc o.vol (adm.map (Ref.volOf s.orders))).sum
    ∃ e', (b.placeOrder id).orders[id]? = some e' ∧ e'.order.vol = rem ∧
      (rem = 0 → e'.order.status = .filled ∧ e'.order.endt = b.t ∧ absq ((b.placeOrder id).side o.side) = s.queue o.side) ∧
      (0 < rem → Book.isMarket o = true →
        e'.order.status = .cancelled ∧ e'.order.endt = b.t ∧ absq ((b.placeOrder id).side o.side) = s.queue o.side) ∧
      (0 < rem → Book.isMarket o = false →
        e'.order.status = .active ∧ absq ((b.placeOrder id).side o.side) = Ref.enqueue s.orders o.side (s.queue o.side) id o.price) := by
  intro s o adm rem
  have hr := place_refines h id hnf
  have hget : s.orders[id]? = some o := abs_get_of he
  obtain ⟨hnd, hval, hs⟩ := abs_queue_ok h o.side.opp
  have hpos : 0 < o.vol := (h.newok id e he hnew).2.1
  have hid : o.id = id := h.ids id e he
  let agg : Order := { o with status := .active, arr := s.t }
  have hrec := Ref.place_record s id o hget hnew
  have hcl := Ref.enter_closed s agg (Book.isMarket o) htr hnd hval hs
  have hrest := Ref.enter_rest s agg (Book.isMarket o) htr hnd hval hpos (by simp [agg])
  have hg : (abs (b.placeOrder id)).orders[id]? = some (Ref.enter s agg (Book.isMarket o)).2 := by rw [hr]; exact hrec.1
  have hqq : ∀ sd, absq ((b.placeOrder id).side sd) = (Ref.enter s agg (Book.isMarket o)).1.queue sd := by
    intro sd; rw [← abs_queue, hr]; exact hrec.2 sd
  obtain ⟨e', he', hg⟩ := abs_get_some.mp hg
  obtain ⟨r0, rm, rl, _, _, _⟩ := hrest
  -- what is left of the order is what the closed form leaves
  rw [hcl.2] at r0 rm rl
  refine ⟨e', he', ?_⟩
  rw [hg, hqq]
  exact ⟨hcl.2, r0, rm, fun hp hm => ⟨(rl hp hm).1, hid ▸ (rl hp hm).2.2⟩⟩

theorem modify_greedy {b : Book} (h : Inv b) (id : Nat) (e : Entry) (np nv : Option Nat) (he : b.orders[id]? = some e)
    (hact : e.order.status = .active) (hgrid : Book.offGrid b.tick np = false) (hre : ¬ (np = none ∧ nv = none))
    (hnotred : (np.isNone && decide (nv.getD e.order.vol < e.order.vol)) = false) (htr : b.trading = true)
    (hpvalid : ∀ p, np = some p → p ≤ MAXP) (hnf : (b.modifyOrder id np nv).faulted = false) :
    let s := abs b
    let o := e.order
    let adm := (s.queue o.side.opp).filter fun j => Ref.admits o.side (np.getD o.price) (Ref.priceOf s.orders j)
    let fs := Ref.alloc (nv.getD o.vol) (adm.map (Ref.volOf s.orders))
    (b.modifyOrder id np nv).trades = b.trades ++ (adm.zip fs).map (fun x => Ref.mkTrade b.t (Ref.orderAt s.orders x.1) o.id x.2) ∧
    fs.sum = min (nv.getD o.vol) (adm.map (Ref.volOf s.orders)).sum := by
  intro s o adm fs
  have hr := modify_refines h id np nv hpvalid hnf
  have hget : s.orders[id]? = some o := abs_get_of he
  obtain ⟨hnd, hval, hs⟩ := abs_queue_ok h o.side.opp
  refine ⟨?_, Ref.alloc_sum _ _⟩
  have : (b.modifyOrder id np nv).trades = (abs (b.modifyOrder id np nv)).trades := rfl
  rw [this, hr]
  exact Ref.modify_closed s id o np nv hget hact hgrid hre hnotred htr hnd hval hs

end Bourse

/-
Counting consequences of "all n! orders, each once": among the permutations of a duplicate-free
list, every element stands at every position in the same number of them, `(n-1)!`, and for any two
distinct elements exactly half, `n!/2`, have the first before the second. Proved by the relabelling
symmetry: exchanging two values is a bijection on the set of permutations.
-/
import Mathlib.Data.List.Permutation
import Mathlib.Data.Nat.Factorial.Basic
import Mathlib.Logic.Equiv.Basic

namespace Bourse
namespace ShuffleCount

variable {α : Type} [DecidableEq α]

def sw (x y : α) (z : α) : α := if z = x then y else if z = y then x else z

theorem sw_eq_swap (x y : α) : sw x y = Equiv.swap x y :=
  funext fun z => (Equiv.swap_apply_def x y z).symm

theorem sw_inj (x y : α) : Function.Injective (sw x y) := by
  rw [sw_eq_swap]; exact (Equiv.swap x y).injective

theorem sw_left (x y : α) : sw x y x = y := by
  rw [sw_eq_swap]; exact Equiv.swap_apply_left x y

theorem sw_right (x y : α) : sw x y y = x := by
  rw [sw_eq_swap]; exact Equiv.swap_apply_right x y

theorem sw_eq_right_iff (x y z : α) : sw x y z = y ↔ z = x := by
  have := (sw_inj x y).eq_iff (a := z) (b := x)
  rwa [sw_left] at this

theorem map_sw_perm (l : List α) (hn : l.Nodup) (x y : α) (hx : x ∈ l) (hy : y ∈ l) : (l.map (sw x y)).Perm l := by
  apply (List.subperm_of_subset (hn.map (sw_inj x y)) ?_).perm_of_length_le (by simp)
  intro z hz
  obtain ⟨w, hw, rfl⟩ := List.mem_map.mp hz
  unfold sw
  split
  · exact hy
  · split
    · exact hx
    · exact hw

theorem sum_indicator (l : List α) (z : α) :
    (l.map fun x => if (some z == some x) = true then 1 else 0).sum = l.count z := by
  induction l with
  | nil => rfl
  | cons a t ih => rw [List.map_cons, List.sum_cons, ih, List.count_cons, Nat.add_comm, Option.some_beq_some, BEq.comm]

theorem sum_map_add' {β} (l : List β) (f g : β → Nat) :
    (l.map fun x => f x + g x).sum = (l.map f).sum + (l.map g).sum := by
  induction l with
  | nil => simp
  | cons a t ih => simp only [List.map_cons, List.sum_cons]; rw [ih]; omega

theorem idxOf_map_inj {β} [DecidableEq β] (f : α → β) (hf : Function.Injective f) (a : α) (l : List α) :
    (l.map f).idxOf (f a) = l.idxOf a := by
  induction l with
  | nil => rfl
  | cons b t ih => simp only [List.map_cons, List.idxOf_cons, ih, beq_eq_decide, hf.eq_iff]

/-- **Relabelling symmetry**: counting the permutations of `l` that satisfy `P` is the same as
counting those whose relabelling satisfies `P`. -/
theorem countP_relabel (l : List α) (hn : l.Nodup) (x y : α) (hx : x ∈ l) (hy : y ∈ l) (P : List α → Bool) :
    l.permutations.countP P = l.permutations.countP (fun p => P (p.map (sw x y))) := by
  have h1 : (l.permutations.map (List.map (sw x y))).Perm l.permutations := by
    rw [List.map_permutations]
    exact (map_sw_perm l hn x y hx hy).permutations
  rw [← h1.countP_eq P, List.countP_map]
  rfl

theorem count_at_position_eq (l : List α) (hn : l.Nodup) (x y : α) (hx : x ∈ l) (hy : y ∈ l) (i : Nat) :
    l.permutations.countP (fun p => p[i]? == some y) = l.permutations.countP (fun p => p[i]? == some x) := by
  rw [countP_relabel l hn x y hx hy]
  congr 1
  funext p
  cases h : p[i]? <;> simp [h, sw_eq_right_iff]

/-- Every permutation of `l` has exactly one element of `l` at position `i < n`. -/
theorem sum_over_elements (l : List α) (hn : l.Nodup) (i : Nat) (hi : i < l.length) (L : List (List α))
    (hL : ∀ p ∈ L, p.Perm l) :
    (l.map fun x => L.countP (fun p => p[i]? == some x)).sum = L.length := by
  induction L with
  | nil => simp
  | cons p rest ih =>
    have hp := hL p List.mem_cons_self
    have ih' := ih (fun q hq => hL q (List.mem_cons_of_mem _ hq))
    simp only [List.countP_cons, List.length_cons]
    rw [sum_map_add', ih']
    congr 1
    -- exactly one `x` in `l` equals `p[i]`
    have hlen : i < p.length := hp.length_eq ▸ hi
    rw [List.getElem?_eq_getElem hlen, sum_indicator]
    exact List.count_eq_one_of_mem hn (hp.subset (List.getElem_mem hlen))

/-- **Every element is equally likely at every position**: of the `n!` permutations of a
duplicate-free list of length `n`, exactly `(n-1)!` have a given element `x` at a given position. -/
theorem count_at_position (l : List α) (hn : l.Nodup) (x : α) (hx : x ∈ l) (i : Nat) (hi : i < l.length) :
    l.permutations.countP (fun p => p[i]? == some x) = (l.length - 1).factorial := by
  have hsum := sum_over_elements l hn i hi l.permutations (fun p hp => List.mem_permutations.mp hp)
  -- all `n` summands are equal, and they add up to `n! = n · (n-1)!`
  rw [List.map_congr_left fun y hy => count_at_position_eq l hn x y hx hy i, List.map_const', List.sum_replicate_nat,
    List.length_permutations, ← Nat.mul_factorial_pred (by omega)] at hsum
  exact Nat.eq_of_mul_eq_mul_left (by omega) hsum

/-- **Every relative order of two elements is equally likely**: the permutations with `x` before `y`
are exactly as many as those with `y` before `x`, and together they are all `n!`. -/
theorem count_before (l : List α) (hn : l.Nodup) (x y : α) (hx : x ∈ l) (hy : y ∈ l) (hxy : x ≠ y) :
    l.permutations.countP (fun p => decide (p.idxOf x < p.idxOf y)) =
      l.permutations.countP (fun p => decide (p.idxOf y < p.idxOf x)) ∧
    l.permutations.countP (fun p => decide (p.idxOf x < p.idxOf y)) +
      l.permutations.countP (fun p => decide (p.idxOf y < p.idxOf x)) = l.length.factorial := by
  constructor
  · rw [countP_relabel l hn x y hx hy]
    congr 1
    funext p
    have h1 := idxOf_map_inj (sw x y) (sw_inj x y) y p
    have h2 := idxOf_map_inj (sw x y) (sw_inj x y) x p
    rw [sw_right] at h1
    rw [sw_left] at h2
    rw [h1, h2]
  · rw [← List.length_permutations, List.length_eq_countP_add_countP (fun p => decide (p.idxOf x < p.idxOf y))]
    congr 1
    apply List.countP_congr
    intro p hp
    -- `x` and `y` stand at different positions of `p`, so exactly one of the two comparisons holds
    have hxp : x ∈ p := (List.mem_permutations.mp hp).mem_iff.mpr hx
    have hne : p.idxOf x ≠ p.idxOf y := fun hc => hxy ((List.idxOf_inj hxp).mp hc)
    simp only [decide_eq_true_eq, Nat.not_lt]
    omega

end ShuffleCount
end Bourse

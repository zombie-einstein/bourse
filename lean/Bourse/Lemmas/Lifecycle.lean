/-
The order lifecycle is a one-way state machine (C04): through every valid, fault-free operation
each order's status only advances, a terminal order's record never changes again, and id, side,
trader and starting volume are immutable. Proved on the reference engine (`RefLifecycle`) and carried
over through the refinement.
-/
import Bourse.Lemmas.RefTransfer
import Bourse.Lemmas.RefLifecycle

namespace Bourse

/-- `e'` is a legal successor of table entry `e`: `OrderAdv e.order e'.order` written out. The two are
the same by definition, which is how `refl`, `trans` and `lifecycle_step` below pass from one to the other. -/
def EntryAdv (e e' : Entry) : Prop :=
  Adv e.order.status e'.order.status = true ∧ e'.order.id = e.order.id ∧ e'.order.side = e.order.side ∧
  e'.order.trader = e.order.trader ∧ e'.order.svol = e.order.svol ∧
  (isTerminal e.order.status = true → e'.order = e.order)

theorem EntryAdv.refl (e : Entry) : EntryAdv e e := OrderAdv.refl e.order

theorem EntryAdv.trans {a b c : Entry} (h1 : EntryAdv a b) (h2 : EntryAdv b c) : EntryAdv a c :=
  OrderAdv.trans h1 h2

theorem EntryAdv.term {e e' : Entry} (h : EntryAdv e e') : isTerminal e.order.status = true → e'.order = e.order :=
  h.2.2.2.2.2

/-- Every entry of `os` has a legal successor at the same index of `os'` (the table may grow). -/
def TableAdv (os os' : List Entry) : Prop := ∀ (i : Nat) (e : Entry), os[i]? = some e → ∃ e', os'[i]? = some e' ∧ EntryAdv e e'

theorem TableAdv.refl (os : List Entry) : TableAdv os os := fun _ e h => ⟨e, h, EntryAdv.refl e⟩

theorem TableAdv.trans {a b c : List Entry} (h1 : TableAdv a b) (h2 : TableAdv b c) : TableAdv a c := by
  intro i e he
  obtain ⟨e1, he1, r1⟩ := h1 i e he
  obtain ⟨e2, he2, r2⟩ := h2 i e1 he1
  exact ⟨e2, he2, r1.trans r2⟩

theorem TableAdv.append (os : List Entry) (x : Entry) : TableAdv os (os ++ [x]) := by
  intro i e he
  exact ⟨e, getElem?_append_some he x, EntryAdv.refl e⟩

/-- **Lifecycle step.** Through every valid, fault-free operation, every order's status advances
only along New → Active → Filled/Cancelled (or New → Filled/Cancelled/Rejected), a terminal
order's record never changes, and id, side, trader and starting volume never change. -/
theorem lifecycle_step {b : Book} (h : Inv b) (op : Op) (hv : ValidOp op) (hnf : (b.step op).1.faulted = false) :
    TableAdv b.orders (b.step op).1.orders := by
  intro i e he
  obtain ⟨o', ho', hadv⟩ := (Ref.step_case (abs b) op).adv (qwf_abs h) i e.order (abs_get_of he)
  obtain ⟨e', he', rfl⟩ := abs_step_get h op hv hnf ho'
  exact ⟨e', he', hadv⟩

theorem lifecycle_run {b : Book} (h : Inv b) (ops : List Op) (hv : ∀ op ∈ ops, ValidOp op) (hnf : NoFault b ops) :
    TableAdv b.orders (b.run ops).orders := by
  induction ops generalizing b with
  | nil => exact TableAdv.refl _
  | cons op rest ih =>
    have hvo := hv op List.mem_cons_self
    exact (lifecycle_step h op hvo hnf.1).trans
      (ih (inv_step h op hvo hnf.1) (fun o ho => hv o (List.mem_cons_of_mem _ ho)) hnf.2)

end Bourse

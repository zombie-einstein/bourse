/-
Every order in the table is a market order or has a price on the tick grid — an invariant of
every operation (C12), needing no validity hypothesis at all.
-/
import Bourse.Lemmas.StepFrame

namespace Bourse

def onGridE (tick : Nat) (e : Entry) : Prop := Book.isMarket e.order = true ∨ e.order.price % tick = 0

def Grid (b : Book) : Prop := ∀ e ∈ b.orders, onGridE b.tick e

theorem grid_new (t0 tick : Nat) (trading : Bool) : Grid (Book.new t0 tick trading) := fun _ he => nomatch he

theorem onGridE_of_same {tick : Nat} {e e' : Entry} (h : onGridE tick e) (hp : e'.order.price = e.order.price)
    (hs : e'.order.side = e.order.side) : onGridE tick e' := by
  unfold onGridE Book.isMarket at *
  rw [hp, hs]; exact h

theorem grid_set {b : Book} (h : Grid b) (i : Nat) (e' : Entry) (he' : onGridE b.tick e') :
    ∀ e ∈ b.orders.set i e', onGridE b.tick e := by
  intro e he
  rcases List.mem_or_eq_of_mem_set he with he | he
  · exact h e he
  · rw [he]; exact he'

/-- The grid while an aggressor is under way: the table is on the grid and so is the aggressor's copy. -/
def GridPair (r : Book × Entry) : Prop := Grid r.1 ∧ onGridE r.1.tick r.2

theorem fillStep_grid (sd : Side) (b : Book) (e : Entry) (id : Nat) (m : Entry) (h : Grid b)
    (hm : b.orders[id]? = some m) : Grid (Book.fillStep sd b e id m).1 := by
  intro x hx
  rw [Book.fillStep_orders] at hx
  rw [(Book.fillStep_frame sd b e id m).tick]
  refine grid_set h id _ ?_ x hx
  have hg := h m (List.mem_of_getElem? hm)
  rcases Book.matchOrders_passive_cases b.t e.order m.order with ⟨-, -, hp⟩ | ⟨-, -, hp⟩ <;>
    exact hp ▸ onGridE_of_same hg rfl rfl

theorem matchLoop_gridPair (sd : Side) (fuel : Nat) (b : Book) (e : Entry) (h : GridPair (b, e)) :
    GridPair (Book.matchLoop sd fuel b e) := by
  refine Book.matchLoop_induct sd (P := fun b e => GridPair (b, e)) (fun _ _ h => h) ?_ fuel b e h
  intro b e id m h hf
  refine ⟨fillStep_grid sd b e id m h.1 hf.get, ?_⟩
  rw [(Book.fillStep_frame sd b e id m).tick]
  exact onGridE_of_same h.2 (Book.fillStep_matchFrame sd b e id m).price (Book.fillStep_matchFrame sd b e id m).side

theorem matchIfTrading_gridPair (sd : Side) (b : Book) (e : Entry) (h : GridPair (b, e)) :
    GridPair (Book.matchIfTrading sd b e) :=
  Book.matchIfTrading_shapes (motive := GridPair) sd b e (fun _ => matchLoop_gridPair _ _ _ _ h) (fun _ => h)

theorem restUnlessFilled_gridPair (sd : Side) (r : Book × Entry) (pk : Nat) (h : GridPair r) :
    GridPair (Book.restUnlessFilled sd r pk) := by
  unfold GridPair Grid at h ⊢
  rw [Book.restUnlessFilled_orders, (Book.restUnlessFilled_opFrame sd r pk).tick]
  exact ⟨h.1, onGridE_of_same h.2 (by rw [Book.restUnlessFilled_order]) (by rw [Book.restUnlessFilled_order])⟩

theorem placeMarket_gridPair (sd : Side) (b : Book) (e : Entry) (h : GridPair (b, e)) :
    GridPair (Book.placeMarket sd b e) := by
  by_cases ht : b.trading = true
  · rw [Book.placeMarket_on sd b e ht]
    have hm := matchLoop_gridPair sd (Book.matchFuel b sd) b e h
    rcases Book.cancelRemainder_cases (Book.matchSide sd b e) with ⟨-, hc⟩ | ⟨-, hc⟩
    · rw [hc]; exact hm
    · rw [hc]; exact ⟨hm.1, onGridE_of_same hm.2 rfl rfl⟩
  · rw [Book.placeMarket_off sd b e (by simpa using ht)]
    exact ⟨h.1, onGridE_of_same h.2 rfl rfl⟩

theorem writeBack_grid {r : Book × Entry} (h : GridPair r) (id : Nat) : Grid (Book.writeBack r id) :=
  grid_set h.1 id r.2 h.2

theorem place_grid (b : Book) (id : Nat) (h : Grid b) : Grid (b.placeOrder id) := by
  have hact : ∀ e, b.orders[id]? = some e → GridPair (b, b.activate e) := fun e he =>
    ⟨h, onGridE_of_same (h e (List.mem_of_getElem? he)) rfl rfl⟩
  refine Book.placeOrder_shapes (motive := Grid) b id (fun _ => h) (fun _ _ _ => h) ?_ ?_
  · exact fun e he _ _ => writeBack_grid (placeMarket_gridPair _ _ _ (hact e he)) id
  · exact fun e he _ _ => writeBack_grid (restUnlessFilled_gridPair _ _ _ (matchIfTrading_gridPair _ _ _ (hact e he))) id

theorem dequeue_grid (b : Book) (e : Entry) (h : Grid b) : Grid (b.dequeue e) := by
  intro x hx
  rw [Book.dequeue_orders] at hx
  rw [Book.dequeue_tick]
  exact h x hx

theorem cancel_grid (b : Book) (id : Nat) (h : Grid b) : Grid (b.cancelOrder id) := by
  refine Book.cancelOrder_shapes (motive := Grid) b id (fun _ => h) (fun _ _ _ => h) ?_
  intro e he _
  exact grid_set (dequeue_grid b e h) id _
    (by rw [Book.dequeue_tick]; exact onGridE_of_same (h e (List.mem_of_getElem? he)) rfl rfl)

theorem modify_grid (b : Book) (id : Nat) (np nv : Option Nat) (h : Grid b) : Grid (b.modifyOrder id np nv) := by
  refine Book.modifyOrder_shapes (motive := Grid) b id np nv (fun _ => h) (fun _ _ _ => h) ?_ ?_
  · intro e v he _ _ _ _
    refine writeBack_grid ⟨?_, ?_⟩ id
    · intro x hx
      simp only [Book.reduceOrderVol, Book.setSide_orders, Book.setSide_tick] at hx ⊢
      exact h x hx
    · simp only [Book.reduceOrderVol, Book.setSide_tick]
      exact onGridE_of_same (h e (List.mem_of_getElem? he)) rfl rfl
  · intro e p v he _ _ hre
    -- the re-entering copy carries the old price, or a requested price that passed the grid test
    have hp : onGridE b.tick { e with order := { e.order with vol := v, price := p } } := by
      cases hre with
      | volume v _ => exact onGridE_of_same (h e (List.mem_of_getElem? he)) rfl rfl
      | price p hg => exact .inr (by simpa [Book.offGrid] using hg)
      | both p v hg => exact .inr (by simpa [Book.offGrid] using hg)
    unfold Book.replaceOrder
    have hd : GridPair (b.dequeue e, { e with order := { e.order with vol := v, price := p } }) :=
      ⟨dequeue_grid b e h, (Book.dequeue_tick b e).symm ▸ hp⟩
    exact writeBack_grid (restUnlessFilled_gridPair _ _ _ (matchIfTrading_gridPair _ _ _ hd)) id

theorem create_grid (b : Book) (sd : Side) (vol tr : Nat) (p : Option Nat) (h : Grid b) :
    Grid (b.createOrder sd vol tr p).1 := by
  refine Book.createOrder_shapes (motive := fun r => Grid r.1) b sd vol tr p (fun _ _ _ => h) ?_
  intro hg x hx
  rcases List.mem_append.mp hx with hx | hx
  · exact h x hx
  · rw [List.mem_singleton.mp hx]
    cases p with
    | none => exact .inl (by cases sd <;> simp [Book.isMarket, Book.mkOrder])
    | some q => exact .inr (by simpa [Book.offGrid, Book.mkOrder] using hg)

theorem step_tick (b : Book) (op : Op) : (b.step op).1.tick = b.tick := by
  by_cases ha : op.Admin
  · exact (Book.admin_frame b ha).tick
  · exact (Book.step_opFrame b op ha).tick

theorem run_tick (b : Book) (ops : List Op) : (b.run ops).tick = b.tick := by
  induction ops generalizing b with
  | nil => rfl
  | cons op rest ih => simp only [Book.run, List.foldl_cons] at ih ⊢; rw [ih, step_tick]

/-- **Every operation keeps every price on the grid** — with no hypothesis on the operation:
arbitrary creation prices (rejected when off the grid), arbitrary modify prices (ignored when off
the grid), any ids, any volumes. -/
theorem grid_step (b : Book) (op : Op) (h : Grid b) : Grid (b.step op).1 :=
  Book.step_shapes (motive := fun _ r => Grid r.1) b
    (fun sd vol tr p => create_grid b sd vol tr p h) (fun id => place_grid b id h)
    (fun sd vol tr p id _ => place_grid _ id (create_grid b sd vol tr p h))
    (fun sd vol tr p _ _ _ => create_grid b sd vol tr p h) (fun id => cancel_grid b id h)
    (fun id p v => modify_grid b id p v h) (fun _ _ hr => hr)
    (fun _ ha => by cases ha with | trading on => cases on <;> exact h | _ => exact h)
    -- the reload arms: `reload` rebuilds the sides; table and tick size, all that `Grid` reads, are `b`'s
    (fun _ => h) (fun _ => h) op

theorem grid_run (b : Book) (ops : List Op) (h : Grid b) : Grid (b.run ops) := by
  induction ops generalizing b with
  | nil => exact h
  | cons op rest ih => simp only [Book.run, List.foldl_cons]; exact ih _ (grid_step b op h)

end Bourse

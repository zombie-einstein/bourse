/-
Who is the aggressor of a logged trade: every record an operation appends names, as its ACTIVE order,
the order that operation placed or re-priced. Proved on the reference engine (the match loop only
ever writes the id of the aggressor it was given); transferred through the refinement in `RefTransfer`.
-/
import Bourse.Lemmas.RefArrival

namespace Bourse
namespace Ref

theorem matchQ_active (t : Nat) (q : List Nat) (st : MatchSt) :
    ∃ new, (matchQ t q st).2.trades = st.trades ++ new ∧ (∀ tr ∈ new, tr.active = st.agg.id) ∧
      (matchQ t q st).2.agg.id = st.agg.id := by
  obtain ⟨new, h1, h2⟩ := matchQ_trades t q st
  exact ⟨new, h1, fun tr h => (h2 tr h).2.1, (matchQ_rel (filled_fillRel t) q st).2.1.1.id⟩

theorem enter_active (s : RState) (agg : Order) (market : Bool) :
    ∃ new, (enter s agg market).1.trades = s.trades ++ new ∧ ∀ tr ∈ new, tr.active = agg.id := by
  rw [(enter_orders s agg market).2, matchPhase_trades]
  split
  · obtain ⟨new, h1, h2, _⟩ := matchQ_active s.t (s.queue agg.side.opp) ⟨s.orders, s.trades, s.tradeVol, agg⟩
    exact ⟨new, h1, h2⟩
  · exact ⟨[], by simp, by simp⟩

/-- The order an operation places or re-prices (`none`: the operation cannot trade). -/
def subject (s : RState) : Op → Option Nat
  | .place i | .ev (.new i) | .modify i _ _ | .ev (.modify i _ _) => some i
  | .cap .. => some s.orders.length
  | _ => none

theorem matchQ_passive (t : Nat) (q : List Nat) (st : MatchSt)
    (hw : ∀ (id : Nat) (o : Order), st.orders[id]? = some o → o.id = id) :
    ∃ new, (matchQ t q st).2.trades = st.trades ++ new ∧ ∀ tr ∈ new, tr.passive ∈ q := by
  obtain ⟨new, h1, h2⟩ := matchQ_trades t q st
  refine ⟨new, h1, fun tr h => ?_⟩
  obtain ⟨_, _, j, hj, o, ho, hp, _⟩ := h2 tr h
  rw [hp, hw j o ho]; exact hj

theorem enter_passive (s : RState) (hw : ∀ (id : Nat) (o : Order), s.orders[id]? = some o → o.id = id)
    (agg : Order) (market : Bool) :
    ∃ new, (enter s agg market).1.trades = s.trades ++ new ∧ ∀ tr ∈ new, tr.passive ∈ s.queue agg.side.opp := by
  rw [(enter_orders s agg market).2, matchPhase_trades]
  split
  · exact matchQ_passive s.t (s.queue agg.side.opp) ⟨s.orders, s.trades, s.tradeVol, agg⟩ hw
  · exact ⟨[], by simp, by simp⟩

theorem enterAt_trades {s0 : RState} (hw : ∀ (id : Nat) (o : Order), s0.orders[id]? = some o → o.id = id)
    {id : Nat} {o agg : Order} (ho : s0.orders[id]? = some o) (hid : agg.id = o.id) (market : Bool) :
    ∃ new, (enterAt s0 id agg market).trades = s0.trades ++ new ∧ (∀ tr ∈ new, tr.active = id) ∧
      ∀ tr ∈ new, tr.passive ∈ s0.queue agg.side.opp := by
  obtain ⟨new, h1, h2⟩ := enter_active s0 agg market
  obtain ⟨new', h1', h2'⟩ := enter_passive s0 hw agg market
  have : new' = new := List.append_cancel_left (h1'.symm.trans h1)
  subst this
  exact ⟨new', h1, fun tr h => by rw [h2 tr h, hid, hw id o ho], h2'⟩

/-- **The records one operation appends, for every shape of operation**: each names the operation's
subject as active and (on a well-formed state) an order that was resting as passive. -/
theorem StepCase.trades {s s' : RState} {op : Op} (hc : StepCase s op s')
    (hw : ∀ (id : Nat) (o : Order), s.orders[id]? = some o → o.id = id) :
    ∃ new, s'.trades = s.trades ++ new ∧ (∀ tr ∈ new, subject s op = some tr.active) ∧
      (QWf s → ∀ tr ∈ new, ∃ o, s.orders[tr.passive]? = some o ∧ o.status = .active) := by
  have quiet : s'.trades = s.trades → ∃ new, s'.trades = s.trades ++ new ∧
      (∀ tr ∈ new, subject s op = some tr.active) ∧
      (QWf s → ∀ tr ∈ new, ∃ o, s.orders[tr.passive]? = some o ∧ o.status = .active) :=
    fun h => ⟨[], by simp [h], by simp, by simp⟩
  have resting : ∀ {sd : Side} {j : Nat}, QWf s → j ∈ s.queue sd → ∃ o, s.orders[j]? = some o ∧ o.status = .active :=
    fun hq hj => let ⟨o, ho, ha, _⟩ := hq.qok _ _ hj; ⟨o, ho, ha⟩
  cases hc with
  | quiet _ ht => exact quiet ht
  | create => exact quiet rfl
  | cancel => exact quiet (unqueue_trades ..)
  | reduce => exact quiet rfl
  | place id o ho hn hop =>
    obtain ⟨new, h1, h2, h3⟩ := enterAt_trades hw ho (agg := { o with status := .active, arr := s.t }) rfl (Book.isMarket o)
    refine ⟨new, h1, fun tr h => ?_, fun hq tr h => resting hq (h3 tr h)⟩
    rw [h2 tr h]; rcases hop with rfl | rfl <;> rfl
  | cap sd vol tr p hg =>
    obtain ⟨new, h1, h2, h3⟩ := enterAt_trades (s0 := created s sd vol tr p)
      (agg := { newOrder s sd vol tr p with status := .active, arr := s.t })
      (fun id o ho => by
        rcases getElem?_append_one ho with h | ⟨_, rfl, rfl⟩
        · exact hw id o h
        · rfl)
      (created_new s sd vol tr p) rfl _
    exact ⟨new, h1, fun tr h => by rw [h2 tr h]; rfl, fun hq tr h => resting hq (h3 tr h)⟩
  | reenter id o np nv ho ha hg hop =>
    obtain ⟨new, h1, h2, h3⟩ := enterAt_trades (s0 := unqueue s o.side id) (id := id) (o := o)
      (agg := { o with vol := nv.getD o.vol, price := np.getD o.price }) (by rw [unqueue_orders]; exact hw)
      (by rw [unqueue_orders]; exact ho) rfl false
    rw [unqueue_trades] at h1
    refine ⟨new, h1, fun tr h => ?_, fun hq tr h => resting hq ((unqueue_sublist _).subset (h3 tr h))⟩
    rw [h2 tr h]; rcases hop with rfl | rfl <;> rfl

/-- **Every record an operation appends names, as its active order, the order that operation placed
or re-priced**; operations that place or re-price nothing append nothing. -/
theorem step_active (s : RState) (hw : ∀ (id : Nat) (o : Order), s.orders[id]? = some o → o.id = id) (op : Op) :
    ∃ new, (step s op).1.trades = s.trades ++ new ∧ ∀ tr ∈ new, subject s op = some tr.active := by
  obtain ⟨new, h1, h2, _⟩ := (step_case s op).trades hw
  exact ⟨new, h1, h2⟩

end Ref

end Bourse

/-
One trader's turn in `NoiseAgent::update` and in `MomentumAgent::update` is the same thing: draws,
then at most one limit order, then at most one market order. The generator never looks at the
environment, so for every generator state the turn is `turn` with some choice `lim`, `mkt` fixed in
advance (`noiseTrader_turn`, `momTrader_turn`: each half of a body is a `Stage`, built along its `if`s
by `Stage.ite` from the leaves "no order" and "one order"). What an update does to the environment
is then proved once, about `turn` (`turn_inv`, lifted to the trader loop by `turnLoop_inv`).
-/
import Bourse.Model.FloatAgents

namespace Bourse
namespace FAgents

/-- The limit price a trader quotes on side `sd`. -/
def quote (mid d : F) (tick : Nat) : Side → Nat
  | .bid => buyPrice mid d tick
  | .ask => sellPrice mid d tick

def limitPart (a tick vol : Nat) (mid : F) (tr : Nat) (live : List Nat) (e : MEnv) :
    Option (Side × F) → Option (List Nat × MEnv)
  | none => some (live, e)
  | some (sd, d) => (submitLimit e a sd vol tr (quote mid d tick sd)).map fun r => (live ++ [r.1], r.2)

def marketPart (a vol tr : Nat) (live : List Nat) (e : MEnv) : Option Side → Option (List Nat × MEnv)
  | none => some (live, e)
  | some sd => (submitMarket e a sd vol tr).map fun e => (live, e)

/-- A trader's turn once the draws are made: `lim` = side and sampled distance of its limit order,
`mkt` = side of its market order, if any. -/
def turn (a tick vol : Nat) (mid : F) (tr : Nat) (lim : Option (Side × F)) (mkt : Option Side)
    (live : List Nat) (e : MEnv) : Option (List Nat × MEnv) :=
  match limitPart a tick vol mid tr live e lim with
  | none => none
  | some (live, e) => marketPart a vol tr live e mkt

/-- The sides open to an agent that may buy iff `buys` and sell iff `sells`. -/
def allowed (buys sells : Bool) : Side → Prop
  | .bid => buys = true
  | .ask => sells = true

/-- `f` is `turn` with choices that depend on the generator only: sides among the `allowed` ones,
distances drawn from `smp`. -/
def IsTurn (buys sells : Bool) (smp : Sampler) (a tick vol : Nat) (mid : F) (tr : Nat)
    (f : List Nat → MEnv → Xoro → Option (List Nat × MEnv × Xoro)) : Prop :=
  ∀ g, ∃ lim mkt g', (∀ x ∈ lim, allowed buys sells x.1 ∧ ∃ g0, x.2 = (smp g0).1) ∧
    (∀ sd ∈ mkt, allowed buys sells sd) ∧
    ∀ live e, f live e g = (turn a tick vol mid tr lim mkt live e).map fun r => (r.1, r.2, g')

/-- `X` is one half of a trader's body: `part` with a choice and a next generator state that are fixed
before the order list and the environment are looked at. -/
def Stage {κ : Type} (part : List Nat → MEnv → κ → Option (List Nat × MEnv)) (Q : κ → Prop)
    (X : List Nat → MEnv → Option (List Nat × MEnv × Xoro)) : Prop :=
  ∃ k g', Q k ∧ ∀ live e, X live e = (part live e k).map fun r => (r.1, r.2, g')

theorem Stage.ite {κ part Q X Y} (c : Prop) [Decidable c]
    (hX : c → Stage (κ := κ) part Q X) (hY : ¬c → Stage part Q Y) :
    Stage part Q fun live e => if c then X live e else Y live e := by
  by_cases h : c
  · simp only [if_pos h]
    exact hX h
  · simp only [if_neg h]
    exact hY h

section
variable {a tick vol : Nat} {mid : F} {tr : Nat} {Q : Option (Side × F) → Prop} {Q' : Option Side → Prop}

theorem Stage.limit_none (hQ : Q none) (g : Xoro) :
    Stage (limitPart a tick vol mid tr) Q fun live e => some (live, e, g) :=
  ⟨none, g, hQ, fun _ _ => rfl⟩

theorem Stage.limit_some (sd : Side) (d : F) (hQ : Q (some (sd, d))) (g : Xoro) :
    Stage (limitPart a tick vol mid tr) Q fun live e =>
      (submitLimit e a sd vol tr (quote mid d tick sd)).map fun x => (live ++ [x.1], x.2, g) :=
  ⟨some (sd, d), g, hQ, fun _ _ => by rw [limitPart, Option.map_map]; rfl⟩

theorem Stage.limit_coin (b : Bool) (d : F) (hQ : Q (some (if b = true then .bid else .ask, d))) (g : Xoro) :
    Stage (limitPart a tick vol mid tr) Q fun live e =>
      (if b = true then submitLimit e a .bid vol tr (buyPrice mid d tick)
       else submitLimit e a .ask vol tr (sellPrice mid d tick)).map fun x => (live ++ [x.1], x.2, g) := by
  cases b
  · exact .limit_some .ask d hQ g
  · exact .limit_some .bid d hQ g

theorem Stage.market_none (hQ : Q' none) (g : Xoro) :
    Stage (marketPart a vol tr) Q' fun live e => some (live, e, g) :=
  ⟨none, g, hQ, fun _ _ => rfl⟩

theorem Stage.market_some (sd : Side) (hQ : Q' (some sd)) (g : Xoro) :
    Stage (marketPart a vol tr) Q' fun live e => (submitMarket e a sd vol tr).map fun e => (live, e, g) :=
  ⟨some sd, g, hQ, fun _ _ => by rw [marketPart, Option.map_map]; rfl⟩

end

/-- A limit stage followed by a market stage on the generator state the limit stage left is a turn. -/
theorem IsTurn.of_stages {buys sells smp a tick vol mid tr f}
    {L M : Xoro → List Nat → MEnv → Option (List Nat × MEnv × Xoro)}
    (hL : ∀ g, Stage (limitPart a tick vol mid tr)
      (fun lim => ∀ x ∈ lim, allowed buys sells x.1 ∧ ∃ g0, x.2 = (smp g0).1) (L g))
    (hM : ∀ g1, Stage (marketPart a vol tr) (fun mkt => ∀ sd ∈ mkt, allowed buys sells sd) (M g1))
    (hf : ∀ live e g, f live e g = match L g live e with | none => none | some (live, e, g1) => M g1 live e) :
    IsTurn buys sells smp a tick vol mid tr f := by
  intro g
  obtain ⟨lim, g1, hl, hL⟩ := hL g
  obtain ⟨mkt, g', hm, hM⟩ := hM g1
  refine ⟨lim, mkt, g', hl, hm, fun live e => ?_⟩
  rw [hf, hL, turn]
  cases limitPart a tick vol mid tr live e lim with
  | none => rfl
  | some r => exact hM _ _

-- The terms follow the bodies' `if`s leaf by leaf; the closing `rfl` checks that a body is its two
-- stages in sequence.
theorem noiseTrader_turn (c : NoiseP) (smp : Sampler) (mid : F) (tr : Nat) :
    IsTurn true true smp c.asset c.tick c.vol mid tr (noiseTrader c smp mid tr) :=
  .of_stages
    (fun g => .ite (F64.lt (genF32 g).1 c.pLimit = true)
      (fun _ => .limit_coin (genBoolHalf (genF32 g).2).1 (smp (genBoolHalf (genF32 g).2).2).1
        (fun x h => by cases h; exact ⟨by cases (genBoolHalf (genF32 g).2).1 <;> rfl, _, rfl⟩) (smp (genBoolHalf (genF32 g).2).2).2)
      (fun _ => .limit_none nofun (genF32 g).2))
    (fun g1 => .ite (F64.lt (genF32 g1).1 c.pMarket = true)
      (fun _ => .market_some (if (genBoolHalf (genF32 g1).2).1 = true then .bid else .ask)
        (fun sd _ => by cases sd <;> rfl) (genBoolHalf (genF32 g1).2).2)
      (fun _ => .market_none nofun (genF32 g1).2))
    (fun _ _ _ => rfl)

theorem momTrader_turn (c : MomP) (smp : Sampler) (mid m pl pm : F) (tr : Nat) :
    IsTurn (F64.lt (.fin 0) m) (F64.lt m (.fin 0)) smp c.asset c.tick c.vol mid tr (momTrader c smp mid m pl pm tr) :=
  .of_stages
    (fun g => .ite (F64.lt (genF64 g).1 pl = true)
      (fun _ => .ite (F64.lt (.fin 0) m = true)
        (fun hp => .limit_some .bid (smp (genF64 g).2).1 (fun x h => by cases h; exact ⟨hp, _, rfl⟩) (smp (genF64 g).2).2)
        (fun _ => .ite (F64.lt m (.fin 0) = true)
          (fun hn => .limit_some .ask (smp (genF64 g).2).1 (fun x h => by cases h; exact ⟨hn, _, rfl⟩) (smp (genF64 g).2).2)
          (fun _ => .limit_none nofun (genF64 g).2)))
      (fun _ => .limit_none nofun (genF64 g).2))
    (fun g1 => .ite (F64.lt (genF64 g1).1 pm = true)
      (fun _ => .ite (F64.lt (.fin 0) m = true)
        (fun hp => .market_some .bid (fun sd h => by cases h; exact hp) (genF64 g1).2)
        (fun _ => .ite (F64.lt m (.fin 0) = true)
          (fun hn => .market_some .ask (fun sd h => by cases h; exact hn) (genF64 g1).2)
          (fun _ => .market_none nofun (genF64 g1).2)))
      (fun _ => .market_none nofun (genF64 g1).2))
    (fun _ _ _ => rfl)

theorem submitLimit_eq {e : MEnv} {a : Nat} {sd : Side} {vol tr p id : Nat} {e' : MEnv}
    (h : submitLimit e a sd vol tr p = some (id, e')) : e.placeOrder a sd vol tr (some p) = (e', .ok id) := by
  unfold submitLimit at h
  split at h
  · rename_i id' hr
    cases h
    rw [← hr]
  · cases h

theorem submitMarket_eq {e : MEnv} {a : Nat} {sd : Side} {vol tr : Nat} {e' : MEnv}
    (h : submitMarket e a sd vol tr = some e') : ∃ id, e.placeOrder a sd vol tr none = (e', .ok id) := by
  unfold submitMarket at h
  split at h
  · rename_i id' hr
    cases h
    exact ⟨id', by rw [← hr]⟩
  · cases h

theorem turn_inv {a tick vol : Nat} {mid : F} {tr : Nat} {lim : Option (Side × F)} {mkt : Option Side}
    (P : MEnv → Prop)
    (hlim : ∀ x ∈ lim, ∀ e id e', P e →
      submitLimit e a x.1 vol tr (quote mid x.2 tick x.1) = some (id, e') → P e')
    (hmkt : ∀ sd ∈ mkt, ∀ e e', P e → submitMarket e a sd vol tr = some e' → P e')
    {live : List Nat} {e : MEnv} {r : List Nat × MEnv} (he : P e)
    (h : turn a tick vol mid tr lim mkt live e = some r) : P r.2 := by
  unfold turn at h
  split at h
  · cases h
  · rename_i live1 e1 hl
    have h1 : P e1 := by
      cases lim with
      | none => cases hl; exact he
      | some x =>
        obtain ⟨y, hs, ⟨⟩⟩ := Option.map_eq_some_iff.1 hl
        exact hlim x rfl e y.1 y.2 he hs
    cases mkt with
    | none => cases h; exact h1
    | some sd =>
      obtain ⟨e2, hs, ⟨⟩⟩ := Option.map_eq_some_iff.1 h
      exact hmkt sd rfl _ _ h1 hs

/-- `noiseLoop` and `momLoop` with the body as a parameter. -/
def turnLoop (f : Nat → List Nat → MEnv → Xoro → Option (List Nat × MEnv × Xoro)) :
    List Nat → List Nat → MEnv → Xoro → Option (List Nat × MEnv × Xoro)
  | [], live, e, g => some (live, e, g)
  | tr :: rest, live, e, g =>
    match f tr live e g with
    | none => none
    | some (live, e, g) => turnLoop f rest live e g

theorem noiseLoop_eq (c : NoiseP) (smp : Sampler) (mid : F) (trs live : List Nat) (e : MEnv) (g : Xoro) :
    noiseLoop c smp mid trs live e g = turnLoop (noiseTrader c smp mid) trs live e g := by
  induction trs generalizing live e g with
  | nil => rfl
  | cons tr rest ih =>
    rw [noiseLoop, turnLoop]
    cases noiseTrader c smp mid tr live e g with
    | none => rfl
    | some r => exact ih _ _ _

theorem momLoop_eq (c : MomP) (smp : Sampler) (mid m pl pm : F) (trs live : List Nat) (e : MEnv) (g : Xoro) :
    momLoop c smp mid m pl pm trs live e g = turnLoop (momTrader c smp mid m pl pm) trs live e g := by
  induction trs generalizing live e g with
  | nil => rfl
  | cons tr rest ih =>
    rw [momLoop, turnLoop]
    cases momTrader c smp mid m pl pm tr live e g with
    | none => rfl
    | some r => exact ih _ _ _

theorem turnLoop_inv {buys sells smp a tick vol mid f} (P : MEnv → Prop) (trs : List Nat)
    (hf : ∀ tr ∈ trs, IsTurn buys sells smp a tick vol mid tr (f tr))
    (hP : ∀ tr ∈ trs, ∀ lim mkt live e r, (∀ x ∈ lim, allowed buys sells x.1 ∧ ∃ g0, x.2 = (smp g0).1) →
      (∀ sd ∈ mkt, allowed buys sells sd) → P e → turn a tick vol mid tr lim mkt live e = some r → P r.2)
    {live e g r} (he : P e) (h : turnLoop f trs live e g = some r) : P r.2.1 := by
  induction trs generalizing live e g with
  | nil => cases h; exact he
  | cons tr rest ih =>
    obtain ⟨lim, mkt, g', hl, hm, heq⟩ := hf tr List.mem_cons_self g
    rw [turnLoop, heq] at h
    cases ht : turn a tick vol mid tr lim mkt live e with
    | none => rw [ht] at h; cases h
    | some r1 =>
      rw [ht] at h
      exact ih (fun t ht => hf t (List.mem_cons_of_mem _ ht)) (fun t ht => hP t (List.mem_cons_of_mem _ ht))
        (hP tr List.mem_cons_self lim mkt live e r1 hl hm he ht) h

theorem turnLoop_ok {buys sells smp a tick vol mid f} (P : MEnv → Prop) (trs : List Nat)
    (hf : ∀ tr ∈ trs, IsTurn buys sells smp a tick vol mid tr (f tr))
    (hP : ∀ tr lim mkt live e, P e → ∃ r, turn a tick vol mid tr lim mkt live e = some r ∧ P r.2)
    {live e g} (he : P e) : ∃ r, turnLoop f trs live e g = some r := by
  induction trs generalizing live e g with
  | nil => exact ⟨_, rfl⟩
  | cons tr rest ih =>
    obtain ⟨lim, mkt, g', _, _, heq⟩ := hf tr List.mem_cons_self g
    obtain ⟨r1, ht, hr1⟩ := hP tr lim mkt live e he
    rw [turnLoop, heq, ht]
    exact ih (fun t ht => hf t (List.mem_cons_of_mem _ ht)) hr1

theorem cancelAll_market (e : MEnv) (a : Nat) (l : List Nat) : (cancelAll e a l).market = e.market := by
  induction l generalizing e with
  | nil => rfl
  | cons id rest ih => simp only [cancelAll]; rw [ih]; rfl

theorem midOf_cancelAll (e : MEnv) (a a' : Nat) (l : List Nat) : midOf (cancelAll e a l) a' = midOf e a' := by
  unfold midOf; rw [cancelAll_market]

/-- `NoiseAgent::update` is: draw the cancellations, read the mid-price, run the trader loop on the
environment with the cancellations queued (cancelling does not move the mid-price). -/
theorem noiseUpdate_eq (c : NoiseP) (smp : Sampler) (orders : List Nat) (e : MEnv) (g : Xoro) :
    noiseUpdate c smp orders e g =
      (partitionLive e c.asset c.pCancel orders g).bind fun r => (midOf e c.asset).bind fun mid =>
        turnLoop (noiseTrader c smp mid) c.traders r.1 (cancelAll e c.asset r.2.1) r.2.2 := by
  unfold noiseUpdate cancelLive
  cases partitionLive e c.asset c.pCancel orders g with
  | none => rfl
  | some r =>
    simp only [Option.map_some, Option.bind_some, midOf_cancelAll]
    cases midOf e c.asset with
    | none => rfl
    | some mid => exact noiseLoop_eq ..

theorem momUpdate_eq (c : MomP) (smp : Sampler) (th : F → F) (s : MomState) (e : MEnv) (g : Xoro) :
    momUpdate c smp th s e g =
      (partitionLive e c.asset c.pCancel s.orders g).bind fun r => (midOf e c.asset).bind fun mid =>
        (turnLoop (momTrader c smp mid (signal c th s mid).1 (signal c th s mid).2.2 (signal c th s mid).2.1)
          c.traders r.1 (cancelAll e c.asset r.2.1) r.2.2).map fun x =>
            ({ orders := x.1, last := some mid, m := (signal c th s mid).1 }, x.2.1, x.2.2) := by
  unfold momUpdate cancelLive
  cases partitionLive e c.asset c.pCancel s.orders g with
  | none => rfl
  | some r =>
    simp only [Option.map_some, Option.bind_some, midOf_cancelAll]
    cases midOf e c.asset with
    | none => rfl
    | some mid => simp only [Option.bind_some, momLoop_eq]

end FAgents
end Bourse

/-
`Inv` is preserved by every book operation on valid input (unless the model flags a fault:
overflow of an aggregate / the counter, or an unknown id).
-/
import Bourse.Lemmas.BookInv

namespace Bourse

theorem SideInv.append_table {os : List Entry} {sd : Side} {s : SideS} {stamp : Nat} (h : SideInv os sd s stamp)
    (x : Entry) : ∀ y ∈ s.orders, (os ++ [x])[y.2]? = os[y.2]? := fun y hy => by
  obtain ⟨e, he, -⟩ := h.row hy
  exact List.getElem?_append_left (List.getElem?_eq_some_iff.mp he).1

theorem SideInv.append {os : List Entry} {sd : Side} {s : SideS} {stamp : Nat} (h : SideInv os sd s stamp) (x : Entry) :
    SideInv (os ++ [x]) sd s stamp where
  so := h.so
  sv := h.sv
  ent := (h.congr_table (h.append_table x) (Nat.le_refl _)).ent
  agg := (h.congr_table (h.append_table x) (Nat.le_refl _)).agg
  tot := (h.congr_table (h.append_table x) (Nat.le_refl _)).tot
  bnd := h.bnd
  nofault := h.nofault

theorem Inv.create {b : Book} (h : Inv b) (sd : Side) (vol tr : Nat) (p : Option Nat) (hvol : 0 < vol)
    (hprice : ∀ q, p = some q → q ≤ MAXP) :
    Inv (b.createOrder sd vol tr p).1 := by
  refine Book.createOrder_shapes (motive := fun r => Inv r.1) b sd vol tr p (fun _ _ _ => h) fun _ => ?_
  have hp : (Book.mkOrder b.t sd vol tr p b.orders.length).price ≤ MAXP := by
    cases p with
    | none => cases sd <;> simp [Book.mkOrder, MAXP]
    | some q => cases sd <;> exact hprice q rfl
  exact Inv.of_rows (fun sd' => by cases sd' <;> exact (h.side _).append _)
    (h.rows.append rfl (fun sd' => by cases sd' <;> rfl)
      ⟨rfl, fun _ => ⟨fun hc => Status.noConfusion hc, fun _ => ⟨rfl, hvol, hp⟩⟩⟩)
    h.nofault

/-- Queuing the aggressor after the loop and writing it back ends in a state satisfying `Inv`. -/
theorem LoopInv.close_enqueue {b : Book} {a : Nat} (h : LoopInv b a) (sd : Side) (e : Entry) (pk : Nat)
    (hid : e.order.id = a) (hs : e.order.status = .active) (hside : e.order.side = sd) (hv : 0 < e.order.vol)
    (hpk : pk = priceKey sd e.order.price) (hpb : e.order.price ≤ MAXP)
    (hnf : (Book.writeBack (Book.enqueue sd b e pk) a).faulted = false) :
    Inv (Book.writeBack (Book.enqueue sd b e pk) a) := by
  subst hid
  have hso := (h.side sd).so
  -- the key is fresh: every stamp in the queue is below the counter
  have hfresh : ∀ j, ((pk, b.stamp), j) ∉ (b.side sd).orders := fun j hm => by
    obtain ⟨_, -, hq⟩ := (h.side sd).row hm
    exact Nat.lt_irrefl _ hq.st_lt
  have hords : (Book.writeBack (Book.enqueue sd b e pk) e.order.id).orders =
      b.orders.set e.order.id { e with key := ⟨sd, pk, b.stamp⟩ } := by simp [Book.enqueue]
  have hown : (Book.writeBack (Book.enqueue sd b e pk) e.order.id).side sd =
      (b.side sd).insertOrder pk b.stamp e.order.id e.order.vol :=
    (Book.writeBack_side _ _ _).trans (Book.enqueue_side sd b e pk)
  have hopp : (Book.writeBack (Book.enqueue sd b e pk) e.order.id).side sd.opp = b.side sd.opp :=
    (Book.writeBack_side _ _ _).trans (Book.enqueue_side_opp sd b e pk)
  have hstamp : (Book.writeBack (Book.enqueue sd b e pk) e.order.id).stamp = b.stamp + 1 :=
    Book.enqueue_stamp sd b e pk
  have hsf : ((b.side sd).insertOrder pk b.stamp e.order.id e.order.vol).fault = false := by
    rw [← hown]; exact (Book.faulted_eq_false.mp hnf).2 sd
  refine Inv.of_rows ?_ (h.rows.set h.alt hords ?_ (fun _ hj hc => hj hc) ⟨rfl, fun _ => ⟨fun _ => ?_,
    fun hc => by rw [show _ = Status.active from hs] at hc; cases hc⟩⟩)
    (by have := h.nofault; cases sd <;> exact this)
  · rw [hords, hstamp]
    refine sd.forall_of ?_ ?_
    · rw [hown]
      refine (h.side sd).insert pk b.stamp e.order.id _ ?_ (h.out sd) h.alt (Nat.le_succ _)
        ⟨hs, hside, rfl, hpk, hv, Nat.lt_succ_self _, hpb⟩ hsf
      cases hf : SMap.find? (pk, b.stamp) (b.side sd).orders with
      | none => rfl
      | some j => exact absurd (SMap.mem_of_find? hf) (hfresh j)
    · rw [hopp]; exact (h.side _).frame _ _ (h.out _) (Nat.le_succ _)
  · refine sd.forall_of ?_ ?_ <;> intro k j _ hj
    · rw [hown]
      exact (SMap.mem_insert_iff hso).mpr (.inr ⟨hj, fun hc => hfresh j (hc ▸ hj)⟩)
    · rw [hopp]; exact hj
  · show _ ∈ ((Book.writeBack (Book.enqueue sd b e pk) e.order.id).side e.order.side).orders
    rw [hside, hown]
    exact (SMap.mem_insert_iff hso).mpr (.inl rfl)

theorem matchIfTrading_loopInv {b : Book} {a : Nat} (h : LoopInv b a) (sd : Side) (e : Entry)
    (hnf : (Book.matchIfTrading sd b e).1.faulted = false) : LoopInv (Book.matchIfTrading sd b e).1 a :=
  Book.matchIfTrading_shapes (motive := fun r => r.1.faulted = false → LoopInv r.1 a) sd b e
    (fun _ hnf => h.matchLoop sd _ e hnf) (fun _ _ => h) hnf

theorem matchIfTrading_agg_status (sd : Side) (b : Book) (e : Entry)
    (hs : e.order.status = .active) (hv : 0 < e.order.vol) :
    ((Book.matchIfTrading sd b e).2.order.status = .active ∧ 0 < (Book.matchIfTrading sd b e).2.order.vol) ∨
    (Book.matchIfTrading sd b e).2.order.status = .filled :=
  Book.matchIfTrading_shapes (motive := fun r => (r.2.order.status = .active ∧ 0 < r.2.order.vol) ∨
    r.2.order.status = .filled) sd b e (fun _ => matchLoop_agg_status sd _ b e hs hv) (fun _ => .inl ⟨hs, hv⟩)

/-- A limit aggressor (a placement, or a re-entering modification): match, then rest the remainder
under `pk` or stop if filled; write back. -/
theorem LoopInv.finish_limit {b : Book} {a : Nat} (h : LoopInv b a) (sd : Side) (e : Entry) (pk : Nat)
    (hid : e.order.id = a) (hs : e.order.status = .active) (hside : e.order.side = sd) (hv : 0 < e.order.vol)
    (hpk : pk = priceKey sd e.order.price) (hpb : e.order.price ≤ MAXP)
    (hnf : (Book.writeBack (Book.restUnlessFilled sd (Book.matchIfTrading sd b e) pk) a).faulted = false) :
    Inv (Book.writeBack (Book.restUnlessFilled sd (Book.matchIfTrading sd b e) pk) a) := by
  have hident := Book.matchIfTrading_matchFrame sd b e
  rcases Book.restUnlessFilled_cases sd (Book.matchIfTrading sd b e) pk with ⟨hf, hc⟩ | ⟨hf, hc⟩
  · rw [hc] at hnf ⊢
    exact (matchIfTrading_loopInv h sd e hnf).close_inactive _ (by rw [hf]; simp) (by rw [hf]; simp)
      (hident.id.trans hid)
  · rw [hc] at hnf ⊢
    have hl := matchIfTrading_loopInv h sd e ((Book.enqueue_opFrame sd _ _ pk).unfaulted hnf)
    rcases matchIfTrading_agg_status sd b e hs hv with hstat | hstat
    · exact hl.close_enqueue sd _ pk (hident.id.trans hid) hstat.1 (hident.side.trans hside) hstat.2
        (by rw [hident.price]; exact hpk) (by rw [hident.price]; exact hpb) hnf
    · exact absurd hstat hf

/-- A market aggressor: match, discard the remainder (or reject while trading is disabled); write back. -/
theorem LoopInv.finish_market {b : Book} {a : Nat} (h : LoopInv b a) (sd : Side) (e : Entry)
    (hid : e.order.id = a) (hnf : (Book.writeBack (Book.placeMarket sd b e) a).faulted = false) :
    Inv (Book.writeBack (Book.placeMarket sd b e) a) := by
  by_cases ht : b.trading = true
  · rw [Book.placeMarket_on sd b e ht] at hnf ⊢
    rw [Book.writeBack_faulted, Book.cancelRemainder_fst] at hnf
    have hl : LoopInv (Book.matchSide sd b e).1 a := h.matchLoop sd (Book.matchFuel b sd) e hnf
    have hid' : (Book.matchSide sd b e).2.order.id = a := (Book.matchLoop_matchFrame sd _ b e).id.trans hid
    rcases Book.cancelRemainder_cases (Book.matchSide sd b e) with ⟨hfl, hc⟩ | ⟨-, hc⟩
    · rw [hc]
      exact hl.close_inactive _ (by rw [hfl]; simp) (by rw [hfl]; simp) hid'
    · rw [hc]
      exact hl.close_inactive _ (by simp) (by simp) hid'
  · rw [Book.placeMarket_off sd b e (by simpa using ht)]
    exact h.close_inactive _ (by simp) (by simp) hid

theorem Inv.place {b : Book} (h : Inv b) (id : Nat) (hnf : (b.placeOrder id).faulted = false) :
    Inv (b.placeOrder id) := by
  refine Book.placeOrder_shapes (motive := fun b' => b'.faulted = false → Inv b') b id ?_ ?_ ?_ ?_ hnf
  · intro _ hc; simp [Book.faulted] at hc
  · exact fun _ _ _ _ => h
  · intro e he hnew _ hnf
    exact (h.toLoop he (by rw [hnew]; simp)).finish_market _ _ (h.ids id e he) hnf
  · intro e he hnew _ hnf
    have hnk := h.newok id e he hnew
    exact (h.toLoop he (by rw [hnew]; simp)).finish_limit _ _ _ (h.ids id e he) rfl rfl hnk.2.1 hnk.1 hnk.2.2 hnf

/-- After `dequeue` the Active order `id` is out of the book (its table entry still says Active):
the loop invariant holds. -/
theorem Inv.dequeue_loop {b : Book} (h : Inv b) {id : Nat} {e : Entry} (he : b.orders[id]? = some e)
    (hact : e.order.status = .active) : LoopInv (b.dequeue e) id := by
  obtain ⟨hks, hm, -, -⟩ := h.active_key he hact
  have hown : (b.dequeue e).side e.order.side = (b.side e.order.side).removeOrder e.key.pk e.key.st e.order.vol := by
    simp [Book.dequeue, hks]
  have hopp : (b.dequeue e).side e.order.side.opp = b.side e.order.side.opp := by simp [Book.dequeue, hks]
  have hords : (b.dequeue e).orders = b.orders.set id e := by rw [Book.dequeue_orders, set_of_getElem? he]
  have hlt : id < b.orders.length := (List.getElem?_eq_some_iff.mp he).1
  refine LoopInv.of_rows ?_ (h.rows.set hlt hords ?_ (fun _ _ hc => hc.elim)
    ⟨h.ids id e he, fun hn => absurd rfl hn⟩) ?_ (by rw [Book.dequeue_orders]; exact hlt)
    (by simp [Book.dequeue, h.nofault])
  · rw [Book.dequeue_stamp, hords]
    refine e.order.side.forall_of ?_ ?_
    · rw [hown, ← volOf_of_get he]
      exact (h.side _).remove _ _ id e hm
    · rw [hopp, set_of_getElem? he]; exact h.side _
  · refine e.order.side.forall_of ?_ ?_ <;> intro k j hji hj
    · rw [hown, removeOrder_orders]
      exact (h.side _).mem_erase_of_ne hm hj hji
    · rw [hopp]; exact hj
  · refine e.order.side.forall_of ?_ ?_ <;> intro k hk
    · rw [hown, removeOrder_orders] at hk
      exact (h.side _).not_mem_erase hm k hk
    · rw [hopp] at hk
      exact (h.side _).not_mem_opp (h.side _) hm k hk

theorem Inv.cancel {b : Book} (h : Inv b) (id : Nat) (hnf : (b.cancelOrder id).faulted = false) :
    Inv (b.cancelOrder id) := by
  refine Book.cancelOrder_shapes (motive := fun b' => b'.faulted = false → Inv b') b id ?_ ?_ ?_ hnf
  · intro _ hc; simp [Book.faulted] at hc
  · exact fun _ _ _ _ => h
  · intro e he hact _
    exact (h.dequeue_loop he hact).close_inactive _ (by simp) (by simp) (h.ids id e he)

theorem Inv.reduce {b : Book} (h : Inv b) {id : Nat} {e : Entry} (he : b.orders[id]? = some e)
    (hact : e.order.status = .active) (v : Nat) (hv : 0 < v) (hlt : v < e.order.vol) :
    Inv (Book.writeBack (b.reduceOrderVol e (e.order.vol - v)) id) := by
  obtain ⟨hks, hm, -, -⟩ := h.active_key he hact
  have hords : (Book.writeBack (b.reduceOrderVol e (e.order.vol - v)) id).orders = b.orders.set id
      { e with order := { e.order with vol := e.order.vol - (e.order.vol - v) } } := by
    simp [Book.writeBack, Book.reduceOrderVol]
  have hown : (Book.writeBack (b.reduceOrderVol e (e.order.vol - v)) id).side e.order.side =
      (b.side e.order.side).removeVol e.key.pk (e.order.vol - v) := by simp [Book.reduceOrderVol, hks]
  have hopp : (Book.writeBack (b.reduceOrderVol e (e.order.vol - v)) id).side e.order.side.opp =
      b.side e.order.side.opp := by simp [Book.reduceOrderVol, hks]
  refine Inv.of_rows ?_ (h.rows.set (List.getElem?_eq_some_iff.mp he).1 hords ?_ (fun _ _ hc => hc)
    ⟨h.ids id e he, fun _ => ⟨fun _ => ?_, fun hc => by rw [show _ = Status.active from hact] at hc; cases hc⟩⟩)
    (by simp [Book.writeBack, Book.reduceOrderVol, h.nofault])
  · rw [hords, show (Book.writeBack (b.reduceOrderVol e (e.order.vol - v)) id).stamp = b.stamp by
      simp [Book.writeBack, Book.reduceOrderVol]]
    refine e.order.side.forall_of ?_ ?_
    · rw [hown]
      exact (h.side _).reduce e.key.pk e.key.st id _ e _ hm he (by omega) ⟨hact, rfl, rfl, rfl, rfl⟩
    · rw [hopp]
      exact (h.side _).frame id _ ((h.side _).not_mem_opp (h.side _) hm) (Nat.le_refl _)
  · refine e.order.side.forall_of ?_ ?_ <;> intro k j _ hj
    · rw [hown, removeVol_orders]; exact hj
    · rw [hopp]; exact hj
  · show _ ∈ ((Book.writeBack (b.reduceOrderVol e (e.order.vol - v)) id).side e.order.side).orders
    rw [hown, removeVol_orders]; exact hm

theorem Inv.replace {b : Book} (h : Inv b) {id : Nat} {e : Entry} (he : b.orders[id]? = some e)
    (hact : e.order.status = .active) (np nv : Nat) (hv : 0 < nv) (hnp : np ≤ MAXP)
    (hnf : (Book.writeBack (b.replaceOrder e np nv) id).faulted = false) :
    Inv (Book.writeBack (b.replaceOrder e np nv) id) := by
  have hks := (h.active_key he hact).keySide
  have hl := h.dequeue_loop he hact
  unfold Book.replaceOrder at hnf ⊢
  rw [hks] at hnf ⊢
  exact hl.finish_limit e.order.side _ _ (by simpa using h.ids id e he) (by simpa using hact) rfl (by simpa using hv) rfl
    (by simpa using hnp) hnf

theorem Inv.modify {b : Book} (h : Inv b) (id : Nat) (np nv : Option Nat) (hvalid : ∀ v, nv = some v → 0 < v)
    (hpvalid : ∀ p, np = some p → p ≤ MAXP) (hnf : (b.modifyOrder id np nv).faulted = false) : Inv (b.modifyOrder id np nv) := by
  refine Book.modifyOrder_shapes (motive := fun b' => b'.faulted = false → Inv b') b id np nv ?_ ?_ ?_ ?_ hnf
  · intro _ hc; simp [Book.faulted] at hc
  · exact fun _ _ _ _ => h
  · intro e v he hact _ hnv hlt _
    exact h.reduce he hact v (hvalid v hnv) hlt
  · intro e p v he hact _ hre
    obtain ⟨-, -, hvol, hprice⟩ := h.active_key he hact
    cases hre with
    | volume v _ => exact h.replace he hact _ _ (hvalid v rfl) hprice
    | price p _ => exact h.replace he hact _ _ hvol (hpvalid p rfl)
    | both p v _ => exact h.replace he hact _ _ (hvalid v rfl) (hpvalid p rfl)

end Bourse

/-
Field lemmas: how `setSide`/`side` and the small building blocks of `Book` (`enqueue`, `dequeue`,
`writeBack`, `restUnlessFilled`) touch each field, the fault flags side by side, and the two shapes of
`restUnlessFilled` and of `matchIfTrading`. (The structure `Book.Frame` — what the operations leave
alone or only let grow — is in `StepFrame.lean`.)
-/
import Bourse.Model.Ops

namespace Bourse
namespace Book

@[simp] theorem setSide_t (b : Book) (sd : Side) (s : SideS) : (b.setSide sd s).t = b.t := by
  cases sd <;> rfl
@[simp] theorem setSide_tick (b : Book) (sd : Side) (s : SideS) : (b.setSide sd s).tick = b.tick := by
  cases sd <;> rfl
@[simp] theorem setSide_tradeVol (b : Book) (sd : Side) (s : SideS) :
    (b.setSide sd s).tradeVol = b.tradeVol := by cases sd <;> rfl
@[simp] theorem setSide_stamp (b : Book) (sd : Side) (s : SideS) :
    (b.setSide sd s).stamp = b.stamp := by cases sd <;> rfl
@[simp] theorem setSide_orders (b : Book) (sd : Side) (s : SideS) :
    (b.setSide sd s).orders = b.orders := by cases sd <;> rfl
@[simp] theorem setSide_trades (b : Book) (sd : Side) (s : SideS) :
    (b.setSide sd s).trades = b.trades := by cases sd <;> rfl
@[simp] theorem setSide_trading (b : Book) (sd : Side) (s : SideS) :
    (b.setSide sd s).trading = b.trading := by cases sd <;> rfl
@[simp] theorem setSide_fault (b : Book) (sd : Side) (s : SideS) :
    (b.setSide sd s).fault = b.fault := by cases sd <;> rfl

@[simp] theorem side_setSide (b : Book) (sd : Side) (s : SideS) : (b.setSide sd s).side sd = s := by
  cases sd <;> rfl
@[simp] theorem side_setSide_opp (b : Book) (sd : Side) (s : SideS) :
    (b.setSide sd s).side sd.opp = b.side sd.opp := by cases sd <;> rfl
@[simp] theorem side_opp_setSide (b : Book) (sd : Side) (s : SideS) :
    (b.setSide sd.opp s).side sd = b.side sd := by cases sd <;> rfl
@[simp] theorem side_opp_setSide_opp (b : Book) (sd : Side) (s : SideS) :
    (b.setSide sd.opp s).side sd.opp = s := by cases sd <;> rfl

@[simp] theorem opp_opp (sd : Side) : sd.opp.opp = sd := by cases sd <;> rfl
theorem opp_ne (sd : Side) : sd.opp ≠ sd := by cases sd <;> simp [Side.opp]
theorem eq_opp_of_ne {a b : Side} (h : a ≠ b) : a = b.opp := by
  cases a <;> cases b <;> first | rfl | exact absurd rfl h

theorem _root_.Bourse.Side.forall_of (sd : Side) {P : Side → Prop} (h1 : P sd) (h2 : P sd.opp) : ∀ s, P s := by
  intro s; cases sd <;> cases s <;> assumption

theorem side_setSide_of_ne (b : Book) (sd sd' : Side) (s : SideS) (h : sd' ≠ sd) :
    (b.setSide sd s).side sd' = b.side sd' := by
  cases sd <;> cases sd' <;> simp_all [setSide, side]

theorem side_congr {b b' : Book} (hb : b'.bid = b.bid) (ha : b'.ask = b.ask) (sd : Side) : b'.side sd = b.side sd := by
  cases sd; exact hb; exact ha

theorem faulted_eq_false {b : Book} : b.faulted = false ↔ b.fault = false ∧ ∀ sd, (b.side sd).fault = false := by
  simp only [faulted, Bool.or_eq_false_iff]
  exact ⟨fun h => ⟨h.1.1, fun sd => by cases sd; exact h.2; exact h.1.2⟩,
    fun h => ⟨⟨h.1, h.2 .ask⟩, h.2 .bid⟩⟩

@[simp] theorem enqueue_trades (sd : Side) (b : Book) (e : Entry) (pk : Nat) :
    (enqueue sd b e pk).1.trades = b.trades := by simp [enqueue]
@[simp] theorem enqueue_tradeVol (sd : Side) (b : Book) (e : Entry) (pk : Nat) :
    (enqueue sd b e pk).1.tradeVol = b.tradeVol := by simp [enqueue]
@[simp] theorem enqueue_trading (sd : Side) (b : Book) (e : Entry) (pk : Nat) :
    (enqueue sd b e pk).1.trading = b.trading := by simp [enqueue]
@[simp] theorem enqueue_t (sd : Side) (b : Book) (e : Entry) (pk : Nat) :
    (enqueue sd b e pk).1.t = b.t := by simp [enqueue]
@[simp] theorem enqueue_tick (sd : Side) (b : Book) (e : Entry) (pk : Nat) :
    (enqueue sd b e pk).1.tick = b.tick := by simp [enqueue]
@[simp] theorem enqueue_orders (sd : Side) (b : Book) (e : Entry) (pk : Nat) :
    (enqueue sd b e pk).1.orders = b.orders := by simp [enqueue]
@[simp] theorem enqueue_order (sd : Side) (b : Book) (e : Entry) (pk : Nat) :
    (enqueue sd b e pk).2.order = e.order := by simp [enqueue]

theorem enqueue_side (sd : Side) (b : Book) (e : Entry) (pk : Nat) :
    (enqueue sd b e pk).1.side sd = (b.side sd).insertOrder pk b.stamp e.order.id e.order.vol := by
  cases sd <;> rfl
theorem enqueue_side_opp (sd : Side) (b : Book) (e : Entry) (pk : Nat) :
    (enqueue sd b e pk).1.side sd.opp = b.side sd.opp := by cases sd <;> rfl
theorem enqueue_stamp (sd : Side) (b : Book) (e : Entry) (pk : Nat) :
    (enqueue sd b e pk).1.stamp = b.stamp + 1 := by cases sd <;> rfl
theorem enqueue_fault (sd : Side) (b : Book) (e : Entry) (pk : Nat) :
    (enqueue sd b e pk).1.fault = b.fault := by cases sd <;> rfl

@[simp] theorem dequeue_trades (b : Book) (e : Entry) : (b.dequeue e).trades = b.trades := by
  simp [dequeue]
@[simp] theorem dequeue_tradeVol (b : Book) (e : Entry) : (b.dequeue e).tradeVol = b.tradeVol := by
  simp [dequeue]
@[simp] theorem dequeue_trading (b : Book) (e : Entry) : (b.dequeue e).trading = b.trading := by
  simp [dequeue]
@[simp] theorem dequeue_t (b : Book) (e : Entry) : (b.dequeue e).t = b.t := by simp [dequeue]
@[simp] theorem dequeue_tick (b : Book) (e : Entry) : (b.dequeue e).tick = b.tick := by simp [dequeue]
@[simp] theorem dequeue_orders (b : Book) (e : Entry) : (b.dequeue e).orders = b.orders := by
  simp [dequeue]
@[simp] theorem dequeue_stamp (b : Book) (e : Entry) : (b.dequeue e).stamp = b.stamp := by
  simp [dequeue]

theorem restUnlessFilled_cases (sd : Side) (r : Book × Entry) (pk : Nat) :
    (r.2.order.status = .filled ∧ restUnlessFilled sd r pk = r) ∨
    (r.2.order.status ≠ .filled ∧ restUnlessFilled sd r pk = enqueue sd r.1 r.2 pk) := by
  unfold restUnlessFilled
  split
  · exact .inr ⟨‹_›, rfl⟩
  · exact .inl ⟨Decidable.not_not.mp ‹_›, rfl⟩

@[simp] theorem restUnlessFilled_order (sd : Side) (r : Book × Entry) (pk : Nat) :
    (restUnlessFilled sd r pk).2.order = r.2.order := by
  rcases restUnlessFilled_cases sd r pk with ⟨-, h⟩ | ⟨-, h⟩ <;> simp [h]

@[simp] theorem restUnlessFilled_orders (sd : Side) (r : Book × Entry) (pk : Nat) :
    (restUnlessFilled sd r pk).1.orders = r.1.orders := by
  rcases restUnlessFilled_cases sd r pk with ⟨-, h⟩ | ⟨-, h⟩ <;> simp [h]

@[simp] theorem restUnlessFilled_tradeVol (sd : Side) (r : Book × Entry) (pk : Nat) :
    (restUnlessFilled sd r pk).1.tradeVol = r.1.tradeVol := by
  rcases restUnlessFilled_cases sd r pk with ⟨-, h⟩ | ⟨-, h⟩ <;> simp [h]

theorem matchIfTrading_on (sd : Side) (b : Book) (e : Entry) (h : b.trading = true) :
    matchIfTrading sd b e = matchLoop sd (matchFuel b sd) b e := by simp [matchIfTrading, matchSide, h]

theorem matchIfTrading_off (sd : Side) (b : Book) (e : Entry) (h : b.trading = false) :
    matchIfTrading sd b e = (b, e) := by simp [matchIfTrading, h]

theorem matchIfTrading_shapes {motive : Book × Entry → Prop} (sd : Side) (b : Book) (e : Entry)
    (on : b.trading = true → motive (matchLoop sd (matchFuel b sd) b e))
    (off : b.trading = false → motive (b, e)) : motive (matchIfTrading sd b e) := by
  cases h : b.trading with
  | true => exact matchIfTrading_on sd b e h ▸ on h
  | false => exact matchIfTrading_off sd b e h ▸ off h

@[simp] theorem writeBack_trades (r : Book × Entry) (id : Nat) : (writeBack r id).trades = r.1.trades := rfl
@[simp] theorem writeBack_tradeVol (r : Book × Entry) (id : Nat) :
    (writeBack r id).tradeVol = r.1.tradeVol := rfl
@[simp] theorem writeBack_trading (r : Book × Entry) (id : Nat) :
    (writeBack r id).trading = r.1.trading := rfl
@[simp] theorem writeBack_t (r : Book × Entry) (id : Nat) : (writeBack r id).t = r.1.t := rfl
@[simp] theorem writeBack_tick (r : Book × Entry) (id : Nat) : (writeBack r id).tick = r.1.tick := rfl
@[simp] theorem writeBack_orders (r : Book × Entry) (id : Nat) :
    (writeBack r id).orders = r.1.orders.set id r.2 := rfl
@[simp] theorem writeBack_side (r : Book × Entry) (id : Nat) (sd : Side) :
    (writeBack r id).side sd = r.1.side sd := by cases sd <;> rfl
theorem writeBack_faulted (r : Book × Entry) (id : Nat) : (writeBack r id).faulted = r.1.faulted := rfl

end Book
end Bourse

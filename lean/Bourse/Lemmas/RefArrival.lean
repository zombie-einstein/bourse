/-
What the step arguments about the ledger, the time fields, the lifecycle and uncrossedness share. `QWf`: the queues of a reference state are well formed
against its table. `Arrival`: the situation in which `enter` is called — a well-formed state and an id
that is in neither queue; placing a New order, placing the record `create` has just appended, and
re-entering a record taken out of its queue each give one (`QWf.arrive_*`). `Arrival.rel` carries a
reflexive relation on records through an arrival, record by record.
-/
import Bourse.Lemmas.RefStepCases

namespace Bourse

/-- Well-formedness of a reference state's queues against its table: table indices are ids; a queued
id names an Active record of that queue's side with volume left; no id is queued twice. Every `abs b`
with `Inv b` satisfies it (`qwf_abs`). -/
structure QWf (s : Ref.RState) : Prop where
  ids : ∀ (id : Nat) (o : Order), s.orders[id]? = some o → o.id = id
  qok : ∀ (sd : Side) (j : Nat), j ∈ s.queue sd →
          ∃ o, s.orders[j]? = some o ∧ o.status = .active ∧ o.side = sd ∧ 0 < o.vol
  nd : ∀ sd, (s.queue sd).Nodup

theorem QWf.valid {s : Ref.RState} (hw : QWf s) {sd : Side} {j : Nat} (hj : j ∈ s.queue sd) : j < s.orders.length :=
  let ⟨_, ho, _⟩ := hw.qok sd j hj
  (List.getElem?_eq_some_iff.mp ho).1

theorem QWf.append {s : Ref.RState} (hw : QWf s) {x : Order} (hx : x.id = s.orders.length) :
    QWf { s with orders := s.orders ++ [x] } := by
  refine ⟨fun id o ho => ?_, fun sd j hj => ?_, hw.nd⟩
  · rcases getElem?_append_one ho with h | ⟨_, rfl, rfl⟩
    · exact hw.ids id o h
    · exact hx
  · obtain ⟨o, ho, hr⟩ := hw.qok sd j hj
    exact ⟨o, getElem?_append_some ho x, hr⟩

/-- Order `id`, whose stored record is `o0`, is about to arrive in `s0`: the state is well formed and
`id` is in neither queue. The three arrivals of `StepCase` give one each. -/
structure Arrival (s0 : Ref.RState) (id : Nat) (o0 : Order) : Prop where
  wf : QWf s0
  get : s0.orders[id]? = some o0
  out : ∀ sd, id ∉ s0.queue sd

theorem Arrival.lt {s0 : Ref.RState} {id : Nat} {o0 : Order} (a : Arrival s0 id o0) : id < s0.orders.length :=
  (List.getElem?_eq_some_iff.mp a.get).1

/-- A New record is queued nowhere. -/
theorem QWf.arrive_place {s : Ref.RState} (hw : QWf s) {id : Nat} {o : Order} (ho : s.orders[id]? = some o)
    (hn : o.status = .new) : Arrival s id o :=
  ⟨hw, ho, fun sd hm => by
    obtain ⟨o', ho', ha, _⟩ := hw.qok sd id hm
    rw [ho] at ho'; cases ho'; rw [hn] at ha; cases ha⟩

/-- Nor is the record `create` has just appended: queued ids are indices of the old table. -/
theorem QWf.arrive_cap {s : Ref.RState} (hw : QWf s) (sd : Side) (vol tr : Nat) (p : Option Nat) :
    Arrival (Ref.created s sd vol tr p) s.orders.length (Ref.newOrder s sd vol tr p) :=
  ⟨hw.append rfl, Ref.created_new .., fun _ hm => Nat.lt_irrefl _ (hw.valid hm)⟩

theorem QWf.arrive_reenter {s : Ref.RState} (hw : QWf s) {id : Nat} {o : Order} (ho : s.orders[id]? = some o) :
    Arrival (Ref.unqueue s o.side id) id o := by
  refine ⟨⟨by rw [Ref.unqueue_orders]; exact hw.ids,
    fun sd j hj => by rw [Ref.unqueue_orders]; exact hw.qok sd j ((Ref.unqueue_sublist sd).subset hj),
    fun sd => (hw.nd sd).sublist (Ref.unqueue_sublist sd)⟩, by rw [Ref.unqueue_orders]; exact ho, fun sd => ?_⟩
  rw [Ref.unqueue_queue]
  split
  · exact (hw.nd _).not_mem_erase
  · -- on the other side `id` was never queued: a queued order is on the side of its queue
    rename_i hne
    intro hm
    obtain ⟨o', ho', _, hs', _⟩ := hw.qok sd id hm
    rw [ho] at ho'; cases ho'
    exact hne hs'.symm

/-- **An arrival, record by record**, for a reflexive relation `R`: the arriving order's own record
moves to what `enter` returns; another record that was Active may have been matched (`Ref.Filled`);
any other record is not queued, hence not touched. -/
theorem Arrival.rel {s0 : Ref.RState} {id0 : Nat} {o0 : Order} (a : Arrival s0 id0 o0) {R : Order → Order → Prop}
    (hrefl : ∀ o, R o o) (agg : Order) (market : Bool) (hown : R o0 (Ref.enter s0 agg market).2)
    (hact : ∀ o o', o.status = .active → Ref.Filled s0.t o o' → R o o') (id : Nat) (o : Order)
    (ho : s0.orders[id]? = some o) : ∃ o', (Ref.enterAt s0 id0 agg market).orders[id]? = some o' ∧ R o o' := by
  obtain ⟨hrec, _, hframe, _⟩ := Ref.matchPhase_rel (Ref.filled_fillRel s0.t) agg
  rw [Ref.enterAt_get a.lt, (Ref.enter_orders s0 agg market).1]
  split
  · subst_vars
    rw [a.get] at ho; cases ho
    exact ⟨_, rfl, hown⟩
  · by_cases ha : o.status = .active
    · obtain ⟨o', ho', hf⟩ := hrec id o ho
      exact ⟨o', ho', hact o o' ha hf⟩
    · have hnq : id ∉ s0.queue agg.side.opp := fun hm => by
        obtain ⟨o', ho', ha', _⟩ := a.wf.qok _ id hm
        rw [ho] at ho'; cases ho'; exact ha ha'
      exact ⟨o, (hframe id hnq).trans ho, hrefl o⟩

end Bourse

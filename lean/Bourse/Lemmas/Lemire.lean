/-
`rand 0.8.5` `UniformInt::<u32>::sample_single` (the widening-multiply rejection method behind
`gen_range`, `gen_index`, `choose` and `shuffle`) is *exactly* uniform: over the `2^32` possible
values of one `u32` draw, every result `r < range` is produced by exactly `2^lz` draws
(`lz = range.leading_zeros()`), and at least half of all draws are accepted.
-/
import Bourse.Lemmas.ShuffleBij
import Mathlib.Order.Interval.Finset.Nat
import Mathlib.Algebra.BigOperators.Group.Finset.Basic

namespace Bourse
namespace Xoro

theorem lz32_spec (n : Nat) (h0 : 0 < n) (h1 : n < 4294967296) :
    2147483648 ≤ n * 2 ^ lz32 n ∧ n * 2 ^ lz32 n < 4294967296 := by
  have hne : n ≠ 0 := Nat.ne_of_gt h0
  have hlog : n.log2 ≤ 31 := Nat.le_of_lt_succ ((Nat.log2_lt hne).mpr h1)
  -- `2^k ≤ n < 2^(k+1)` for `k = log2 n`, and `lz = 31 - k`: multiply by `2^(31-k)`
  have hp : 2 ^ n.log2 * 2 ^ (31 - n.log2) = 2 ^ 31 := by rw [← Nat.pow_add, Nat.add_sub_cancel' hlog]
  have hp' : 2 ^ (n.log2 + 1) * 2 ^ (31 - n.log2) = 2 ^ 32 := by
    rw [← Nat.pow_add, Nat.add_right_comm, Nat.add_sub_cancel' hlog]
  rw [show lz32 n = 31 - n.log2 from Nat.sub_right_comm ..]
  exact ⟨Nat.le_trans (Nat.le_of_eq hp.symm) (Nat.mul_le_mul_right _ (Nat.log2_self_le hne)),
    Nat.lt_of_lt_of_eq (Nat.mul_lt_mul_of_pos_right Nat.lt_log2_self (Nat.two_pow_pos _)) hp'⟩

theorem zone_spec (n : Nat) (h0 : 0 < n) (h1 : n < 4294967296) : zone n + 1 = n * 2 ^ lz32 n := by
  have := lz32_spec n h0 h1
  unfold zone
  rw [Nat.mod_eq_of_lt this.2]
  omega

/-- `accept range v = some r` says: `v·range` lies in the window `[r·2^32, r·2^32 + range·2^lz)`. -/
theorem accept_iff (range v r : Nat) (h0 : 0 < range) (h1 : range < 4294967296) :
    accept range v = some r ↔ r * 4294967296 ≤ v * range ∧ v * range < r * 4294967296 + range * 2 ^ lz32 range := by
  have hz := zone_spec range h0 h1
  have hb := (lz32_spec range h0 h1).2
  -- the quotient of `v·range` by `2^32` is `r` and the remainder is at most `zone = range·2^lz - 1`
  simp only [accept, Option.ite_none_right_eq_some, Option.some.injEq]
  omega

/-- `a ≤ w·n` iff `⌈a / n⌉ ≤ w`. -/
theorem le_mul_iff_ceil_le {n : Nat} (h0 : 0 < n) (a w : Nat) : a ≤ w * n ↔ (a + n - 1) / n ≤ w := by
  rw [Nat.div_le_iff_le_mul_add_pred h0, Nat.mul_comm]; omega

theorem ceil_add_mul {n : Nat} (h0 : 0 < n) (a k : Nat) : (a + n * k + n - 1) / n = (a + n - 1) / n + k := by
  rw [← Nat.add_mul_div_left _ _ h0]; congr 1; omega

/-- The window contains exactly the draws `c ≤ v < c + 2^lz`, `c = ⌈r·2^32 / range⌉`: both of its ends
are thresholds on `v·range`, `a ≤ v·range` and `¬ a + range·2^lz ≤ v·range`. -/
theorem accept_iff_interval (range v r : Nat) (h0 : 0 < range) (h1 : range < 4294967296) :
    accept range v = some r ↔
      (r * 4294967296 + range - 1) / range ≤ v ∧ v < (r * 4294967296 + range - 1) / range + 2 ^ lz32 range := by
  rw [accept_iff range v r h0 h1, le_mul_iff_ceil_le h0, ← Nat.not_le, le_mul_iff_ceil_le h0, ceil_add_mul h0, Nat.not_le]

/-- Accepted draws below `2^32` only: the window of a result `r < range` ends at or before `2^32`. -/
theorem accept_window_le (range r : Nat) (h0 : 0 < range) (h1 : range < 4294967296) (hr : r < range) :
    (r * 4294967296 + range - 1) / range + 2 ^ lz32 range ≤ 4294967296 := by
  rw [← ceil_add_mul h0, ← le_mul_iff_ceil_le h0]
  have := (lz32_spec range h0 h1).2
  have := Nat.mul_le_mul_right 4294967296 (Nat.succ_le_of_lt hr)
  rw [Nat.succ_mul, Nat.mul_comm range] at this
  omega

/-- **Exact uniformity of one bounded draw.** Among the `2^32` values of a `u32`, exactly
`2^lz` are accepted with result `r`, for every `r < range`: conditional on acceptance, a uniform
`u32` gives a uniform result in `0..range`. -/
theorem accept_count (range r : Nat) (h0 : 0 < range) (h1 : range < 4294967296) (hr : r < range) :
    ((Finset.range 4294967296).filter (fun v => accept range v = some r)).card = 2 ^ lz32 range := by
  have hw := accept_window_le range r h0 h1 hr
  have : (Finset.range 4294967296).filter (fun v => accept range v = some r) =
      Finset.Ico ((r * 4294967296 + range - 1) / range) ((r * 4294967296 + range - 1) / range + 2 ^ lz32 range) := by
    ext v
    simp only [Finset.mem_filter, Finset.mem_range, Finset.mem_Ico]
    rw [accept_iff_interval range v r h0 h1]
    exact and_iff_right_of_imp fun h => by omega
  rw [this, Nat.card_Ico]
  exact Nat.add_sub_cancel_left ..

/-- **At least half of all draws are accepted** (so the rejection loop ends after `k` draws with
probability at least `1 - 2^-k`; the model's fuel of 256 draws is never exhausted in practice). -/
theorem accept_total (range : Nat) (h0 : 0 < range) (h1 : range < 4294967296) :
    ((Finset.range 4294967296).filter (fun v => (accept range v).isSome)).card = range * 2 ^ lz32 range ∧
    2147483648 ≤ range * 2 ^ lz32 range := by
  refine ⟨?_, (lz32_spec range h0 h1).1⟩
  have hdisj : (Finset.range 4294967296).filter (fun v => (accept range v).isSome) =
      (Finset.range range).biUnion (fun r => (Finset.range 4294967296).filter (fun v => accept range v = some r)) := by
    ext v
    simp only [Finset.mem_filter, Finset.mem_range, Finset.mem_biUnion, Option.isSome_iff_exists]
    exact ⟨fun ⟨hv, r, hr⟩ => ⟨r, accept_lt range v r hv h0 hr, hv, hr⟩, fun ⟨r, _, hv, hr⟩ => ⟨hv, r, hr⟩⟩
  rw [hdisj, Finset.card_biUnion]
  · rw [Finset.sum_congr rfl (fun r hr => accept_count range r h0 h1 (Finset.mem_range.mp hr))]
    simp
  · intro r _ r' _ hne
    exact Finset.disjoint_filter.mpr fun v _ hv hv' => hne (Option.some.inj (hv.symm.trans hv'))

end Xoro
end Bourse

/-
Small list lemmas missing from core (kept Mathlib-free).
-/
namespace Bourse

theorem mem_takeWhile_imp {α} {p : α → Bool} {l : List α} {x : α} (h : x ∈ l.takeWhile p) : p x = true :=
  List.all_eq_true.mp List.all_takeWhile x h

theorem set_of_getElem? {α} {l : List α} {i : Nat} {a : α} (h : l[i]? = some a) : l.set i a = l := by
  obtain ⟨hi, rfl⟩ := List.getElem?_eq_some_iff.mp h
  exact List.set_getElem_self hi

/-- Predicates that agree on a list cut it at the same place. -/
theorem takeWhile_dropWhile_congr {α} {p q : α → Bool} {l : List α} (h : ∀ x ∈ l, p x = q x) :
    l.takeWhile p = l.takeWhile q ∧ l.dropWhile p = l.dropWhile q := by
  induction l with
  | nil => exact ⟨rfl, rfl⟩
  | cons x xs ih =>
    have ih' := ih fun y hy => h y (List.mem_cons_of_mem _ hy)
    rw [List.takeWhile_cons, List.takeWhile_cons, List.dropWhile_cons, List.dropWhile_cons,
      h x List.mem_cons_self, ih'.1, ih'.2]
    exact ⟨rfl, rfl⟩

/-- A list of positive numbers sums to at least its length. -/
theorem length_le_sum_map {α} (f : α → Nat) (l : List α) (h : ∀ x ∈ l, 0 < f x) : l.length ≤ (l.map f).sum := by
  induction l with
  | nil => exact Nat.le_refl _
  | cons x l ih =>
    have := h x List.mem_cons_self
    have := ih fun y hy => h y (List.mem_cons_of_mem _ hy)
    simp only [List.length_cons, List.map_cons, List.sum_cons]
    omega

end Bourse

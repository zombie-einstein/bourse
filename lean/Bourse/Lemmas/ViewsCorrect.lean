/-
The published market data of a book satisfying `Inv` equals the recomputation `Spec.Views` from its
order list (C02).
-/
import Bourse.Lemmas.Reach
import Bourse.Lemmas.LevelsAccount

namespace Bourse

def restsOn (sd : Side) (e : Entry) : Bool := e.order.status = .active && e.order.side = sd

theorem resting_map (os : List Entry) (sd : Side) :
    Views.resting (os.map (·.order)) sd = (os.filter (restsOn sd)).map (·.order) := by
  simp only [Views.resting, List.filter_map]
  rfl

/-- Ids (table indexes) of the entries satisfying `p`, in table order. Not `List.idxOf` (position of a
value in a list), which `Lemmas/ShuffleCount` and C15 use. -/
def idxOf (os : List Entry) (p : Entry → Bool) : List Nat := ((os.zipIdx).filter (fun x => p x.1)).map (·.2)

theorem zipIdx_filter_fst {α} (l : List α) (p : α → Bool) (k : Nat) :
    ((l.zipIdx k).filter (fun x => p x.1)).map (·.1) = l.filter p :=
  (List.filter_map (f := Prod.fst) (p := p)).symm.trans (congrArg _ (List.zipIdx_map_fst k l))

theorem idxOf_nodup (os : List Entry) (p : Entry → Bool) : (idxOf os p).Nodup :=
  (List.filter_sublist.map _).nodup (List.zipIdx_map_snd 0 os ▸ List.nodup_range' 1)

theorem mem_idxOf {os : List Entry} {p : Entry → Bool} {i : Nat} :
    i ∈ idxOf os p ↔ ∃ e, os[i]? = some e ∧ p e = true := by
  simp only [idxOf, List.mem_map, List.mem_filter]
  constructor
  · rintro ⟨⟨e, j⟩, ⟨hm, hp⟩, rfl⟩
    exact ⟨e, List.mk_mem_zipIdx_iff_getElem?.mp hm, hp⟩
  · rintro ⟨e, he, hp⟩
    exact ⟨(e, i), ⟨List.mk_mem_zipIdx_iff_getElem?.mpr he, hp⟩, rfl⟩

def entryAt (os : List Entry) (i : Nat) : Entry := (os[i]?).getD default

theorem entryAt_eq {os : List Entry} {i : Nat} {e : Entry} (h : os[i]? = some e) : entryAt os i = e := by
  rw [entryAt, h]; rfl

theorem map_entryAt_idxOf (os : List Entry) (p : Entry → Bool) : (idxOf os p).map (entryAt os) = os.filter p := by
  rw [idxOf, List.map_map, ← zipIdx_filter_fst os p 0]
  refine List.map_congr_left fun x hx => ?_
  exact entryAt_eq (List.mem_zipIdx_iff_getElem?.mp (List.mem_filter.mp hx).1)

/-- **The bridge between a side's queue and the table**: `(k ↦ id)` is queued on side `sd` iff order
`id` is Active on side `sd` and `k` is the key stored with it. -/
theorem Inv.mem_queue_iff {b : Book} (h : Inv b) (sd : Side) (k : Nat × Nat) (id : Nat) :
    (k, id) ∈ (b.side sd).orders ↔
      ∃ e, b.orders[id]? = some e ∧ restsOn sd e = true ∧ k = (e.key.pk, e.key.st) := by
  constructor
  · intro hm
    obtain ⟨e, he, q⟩ := (h.side sd).row hm
    exact ⟨e, he, by simp [restsOn, q.status, q.side], by rw [q.key]⟩
  · rintro ⟨e, he, hr, rfl⟩
    simp only [restsOn, Bool.and_eq_true, decide_eq_true_eq] at hr
    exact hr.2 ▸ h.act id e he hr.1

theorem Inv.queued {b : Book} (h : Inv b) {sd : Side} {ke : (Nat × Nat) × Nat} (hke : ke ∈ (b.side sd).orders) :
    restsOn sd (entryAt b.orders ke.2) = true ∧
    ke.1.1 = priceKey sd (entryAt b.orders ke.2).order.price ∧ (entryAt b.orders ke.2).order.price ≤ MAXP := by
  obtain ⟨e, he, q⟩ := (h.side sd).row hke
  rw [entryAt_eq he]
  exact ⟨by simp [restsOn, q.status, q.side], q.pk, q.price_le⟩

/-- **The queue holds exactly the Active orders of its side**: the ids in a side's queue are a
permutation of the table indexes of the Active orders of that side. -/
theorem queue_ids_perm {b : Book} (h : Inv b) (sd : Side) :
    ((b.side sd).orders.map (·.2)).Perm (idxOf b.orders (restsOn sd)) := by
  apply (List.perm_ext_iff_of_nodup (h.side sd).ids_nodup (idxOf_nodup _ _)).mpr
  intro id
  rw [mem_idxOf, List.mem_map]
  constructor
  · rintro ⟨⟨k, j⟩, hkj, rfl⟩
    obtain ⟨e, he, hr, _⟩ := (h.mem_queue_iff sd k j).mp hkj
    exact ⟨e, he, hr⟩
  · rintro ⟨e, he, hr⟩
    exact ⟨_, (h.mem_queue_iff sd _ id).mpr ⟨e, he, hr, rfl⟩, rfl⟩

/-- Hence any sum or count over a side's queue is the same sum or count over the table. -/
theorem queue_entries_perm {b : Book} (h : Inv b) (sd : Side) :
    ((b.side sd).orders.map (fun ke => entryAt b.orders ke.2)).Perm (b.orders.filter (restsOn sd)) := by
  have := (queue_ids_perm h sd).map (entryAt b.orders)
  rwa [List.map_map, map_entryAt_idxOf] at this

theorem mem_resting_iff {b : Book} (h : Inv b) (sd : Side) (o : Order) :
    o ∈ Views.resting (b.orders.map (·.order)) sd ↔ ∃ ke ∈ (b.side sd).orders, (entryAt b.orders ke.2).order = o := by
  simp only [resting_map, List.mem_map, ← (queue_entries_perm h sd).mem_iff]
  constructor
  · rintro ⟨_, ⟨ke, hke, rfl⟩, rfl⟩
    exact ⟨ke, hke, rfl⟩
  · rintro ⟨ke, hke, rfl⟩
    exact ⟨_, ⟨ke, hke, rfl⟩, rfl⟩

theorem resting_nil_iff {b : Book} (h : Inv b) (sd : Side) :
    Views.resting (b.orders.map (·.order)) sd = [] ↔ (b.side sd).orders = [] := by
  rw [resting_map, List.map_eq_nil_iff, ← List.length_eq_zero_iff, ← (queue_entries_perm h sd).length_eq,
    List.length_map, List.length_eq_zero_iff]

theorem volOf_entryAt (os : List Entry) (i : Nat) : volOf os i = (entryAt os i).order.vol := by
  simp only [volOf, entryAt]
  cases os[i]? <;> rfl

/-- **Side volume**: the published total volume of a side is the sum of the remaining volumes of
the Active orders of that side in the order list. -/
theorem sideVol_correct {b : Book} (h : Inv b) (sd : Side) :
    (b.side sd).vol = Views.sideVol (b.orders.map (·.order)) sd := by
  rw [(h.side sd).tot, Views.sideVol, resting_map, List.map_map, ← ((queue_entries_perm h sd).map _).sum_nat,
    List.map_map]
  exact congrArg List.sum (List.map_congr_left fun ke _ => volOf_entryAt _ _)

theorem priceKey_inj {sd : Side} {p q : Nat} (hp : p ≤ MAXP) (hq : q ≤ MAXP) : priceKey sd p = priceKey sd q ↔ p = q := by
  cases sd <;> simp only [priceKey] <;> omega

/-- **Level aggregate**: the (volume, count) the side holds for price key `priceKey sd p` is the
(sum of remaining volumes, number) of the Active orders of that side at exactly price `p`. -/
theorem aggAt_correct {b : Book} (h : Inv b) (sd : Side) (p : Nat) (hp : p ≤ MAXP) :
    aggAt b.orders (b.side sd).orders (priceKey sd p) = Views.atPrice (b.orders.map (·.order)) sd p := by
  -- the queue entries under that key point, up to order, to the Active entries of the side priced `p`:
  -- selecting queue entries by key is selecting them by the price of their order
  have hperm : ((atKey (b.side sd).orders (priceKey sd p)).map (fun ke => entryAt b.orders ke.2)).Perm
      ((b.orders.filter (restsOn sd)).filter (fun e => decide (e.order.price = p))) := by
    have hsel : atKey (b.side sd).orders (priceKey sd p) =
        (b.side sd).orders.filter ((fun e : Entry => decide (e.order.price = p)) ∘ fun ke => entryAt b.orders ke.2) :=
      List.filter_congr fun ke hke => by
        obtain ⟨_, hk, hb⟩ := h.queued hke
        simp only [Function.comp, hk, decide_eq_decide]
        exact priceKey_inj hb hp
    rw [hsel, ← List.filter_map]
    exact (queue_entries_perm h sd).filter _
  simp only [aggAt, Views.atPrice, resting_map, List.filter_map, List.length_map, List.map_map]
  refine Prod.ext ?_ ((List.length_map _).symm.trans hperm.length_eq)
  refine Eq.trans ?_ (hperm.map fun e => e.order.vol).sum_nat
  rw [List.map_map]
  exact congrArg List.sum (List.map_congr_left fun ke _ => volOf_entryAt _ _)

theorem key_ge_best {b : Book} (h : Inv b) (sd : Side) : ∀ ke ∈ (b.side sd).orders, (b.side sd).bestKey ≤ ke.1.1 := by
  intro ke hke
  cases hq : (b.side sd).orders with
  | nil => rw [hq] at hke; cases hke
  | cons hd tl =>
    rw [bestKey_cons hq]
    rcases (SMap.first?_min (h.side sd).so (hq ▸ rfl : SMap.first? (b.side sd).orders = some hd)).2 ke hke with he | hl
    · rw [he]; exact Nat.le_refl _
    · simp only [KeyOrd.lt, Bool.or_eq_true, Bool.and_eq_true, decide_eq_true_eq] at hl
      omega

theorem Inv.head_key {b : Book} (h : Inv b) {sd : Side} {hd : (Nat × Nat) × Nat} {tl : SMap (Nat × Nat) Nat}
    (hq : (b.side sd).orders = hd :: tl) :
    (b.side sd).bestKey = priceKey sd (entryAt b.orders hd.2).order.price ∧ (entryAt b.orders hd.2).order.price ≤ MAXP := by
  obtain ⟨_, hk, hb⟩ := h.queued (hq ▸ List.mem_cons_self : hd ∈ (b.side sd).orders)
  exact ⟨(bestKey_cons hq).trans hk, hb⟩

/-- **Touch prices**: the published best bid / best ask are the highest resting bid price / the
lowest resting ask price recomputed from the order list, with the sentinels 0 and `MAXP` for an
empty side. -/
theorem bestPrice_correct {b : Book} (h : Inv b) (sd : Side) :
    bestPrice sd (b.side sd) = Views.best (b.orders.map (·.order)) sd := by
  cases hq : (b.side sd).orders with
  | nil =>
    have hkey : (b.side sd).bestKey = MAXP := by simp [SideS.bestKey, SMap.first?, hq]
    cases sd <;>
      simp only [bestPrice, hkey, Views.best, Views.bestBid, Views.bestAsk, (resting_nil_iff h _).mpr hq,
        List.foldl_nil, Nat.sub_self]
  | cons hd tl =>
    -- the head's price is a resting price, and no resting price has a smaller key
    obtain ⟨hk0, hb0⟩ := h.head_key hq
    rw [bestPrice_of_key hk0 hb0]
    refine (Views.best_eq hb0 ⟨_, (mem_resting_iff h sd _).mpr ⟨hd, hq ▸ List.mem_cons_self, rfl⟩, rfl⟩ fun o ho => ?_).symm
    obtain ⟨ke, hke, rfl⟩ := (mem_resting_iff h sd o).mp ho
    obtain ⟨_, hk, hb⟩ := h.queued hke
    have hge := key_ge_best h sd ke hke
    rw [hk0, hk] at hge
    exact ⟨hge, hb⟩

theorem volumes_find?_of_queued {b : Book} (h : Inv b) {sd : Side} {ke : (Nat × Nat) × Nat}
    (hke : ke ∈ (b.side sd).orders) :
    SMap.find? ke.1.1 (b.side sd).volumes = some (aggAt b.orders (b.side sd).orders ke.1.1) := by
  rw [(h.side sd).agg, if_neg]
  intro hz
  have hmem : ke ∈ atKey (b.side sd).orders ke.1.1 := List.mem_filter.mpr ⟨hke, by simp⟩
  simp only [aggAt] at hz
  rw [List.eq_nil_of_length_eq_zero hz] at hmem
  cases hmem

theorem queued_of_volumes_mem {b : Book} (h : Inv b) {sd : Side} {x : Nat × Nat × Nat}
    (hx : x ∈ (b.side sd).volumes) : ∃ ke ∈ (b.side sd).orders, ke.1.1 = x.1 := by
  have hf := SMap.find?_of_mem (h.side sd).sv (show (x.1, x.2) ∈ _ from hx)
  rw [(h.side sd).agg] at hf
  split at hf
  · cases hf
  · rename_i hc
    obtain ⟨ke, hke⟩ := List.exists_mem_of_ne_nil (atKey (b.side sd).orders x.1)
      (fun hnil => hc (by simp only [aggAt, hnil, List.length_nil]))
    obtain ⟨hm, hk⟩ := List.mem_filter.mp hke
    exact ⟨ke, hm, of_decide_eq_true hk⟩

theorem volumes_first {b : Book} (h : Inv b) (sd : Side) {k0 : Nat × Nat} {id0 : Nat} {tl : SMap (Nat × Nat) Nat}
    (hq : (b.side sd).orders = (k0, id0) :: tl) :
    SMap.first? (b.side sd).volumes = some (k0.1, aggAt b.orders (b.side sd).orders k0.1) := by
  have hfind := volumes_find?_of_queued h (hq ▸ List.mem_cons_self : (k0, id0) ∈ (b.side sd).orders)
  cases hv : (b.side sd).volumes with
  | nil => rw [hv] at hfind; cases hfind
  | cons hd tl' =>
    -- the first level is some queued order's level, hence not below the head's; the head's level is in the map
    obtain ⟨ke, hke, hk⟩ := queued_of_volumes_mem h (hv ▸ List.mem_cons_self : hd ∈ (b.side sd).volumes)
    have hge := key_ge_best h sd ke hke
    rw [bestKey_cons hq, hk] at hge
    simp only at hge
    rcases (SMap.first?_min (h.side sd).sv (hv ▸ rfl : SMap.first? (b.side sd).volumes = some hd)).2 _
        (SMap.mem_of_find? hfind) with heq | hlt
    · exact congrArg some heq.symm
    · simp only [KeyOrd.lt, decide_eq_true_eq] at hlt
      omega

/-- **Touch volume and order count**: the published (volume, count) at the touch of a side are the
(sum of remaining volumes, number) of the Active orders of that side at its best price; (0, 0) for
an empty side. -/
theorem touch_correct {b : Book} (h : Inv b) (sd : Side) :
    (b.side sd).bestVolAndOrders = Views.touch (b.orders.map (·.order)) sd := by
  cases hq : (b.side sd).orders with
  | nil =>
    -- no queued order, hence no level in the `volumes` map
    have hv : (b.side sd).volumes = [] := List.eq_nil_iff_forall_not_mem.mpr fun x hx => by
      obtain ⟨ke, hke, _⟩ := queued_of_volumes_mem h hx
      rw [hq] at hke
      cases hke
    simp [SideS.bestVolAndOrders, SMap.first?, hv, Views.touch, Views.atPrice, (resting_nil_iff h sd).mpr hq]
  | cons hd tl =>
    -- the best price is the price of the head order
    obtain ⟨hk0, hb0⟩ := h.head_key hq
    simp only [SideS.bestVolAndOrders, volumes_first h sd (k0 := hd.1) (id0 := hd.2) hq, Views.touch,
      ← bestPrice_correct h sd, bestPrice_of_key hk0 hb0, ← bestKey_cons hq, hk0]
    exact aggAt_correct h sd _ hb0

theorem volAndOrdersAtKey_eq {b : Book} (h : Inv b) (sd : Side) (pk : Nat) :
    (b.side sd).volAndOrdersAtKey pk = aggAt b.orders (b.side sd).orders pk := by
  rw [SideS.volAndOrdersAtKey, (h.side sd).agg pk]
  by_cases hz : (aggAt b.orders (b.side sd).orders pk).2 = 0
  · rw [if_pos hz]
    exact (aggAt_zero_of_count_zero _ _ _ hz).symm
  · rw [if_neg hz]

theorem probe_price {b : Book} (h : Inv b) (sd : Side) (p : Nat) (hp : p ≤ MAXP) :
    (b.side sd).volAndOrdersAtKey (priceKey sd p) = Views.atPrice (b.orders.map (·.order)) sd p := by
  rw [volAndOrdersAtKey_eq h, aggAt_correct h sd p hp]

theorem probe_below {b : Book} (h : Inv b) (sd : Side) (pk : Nat) (hlt : pk < (b.side sd).bestKey) :
    (b.side sd).volAndOrdersAtKey pk = (0, 0) := by
  rw [volAndOrdersAtKey_eq h]
  have : atKey (b.side sd).orders pk = [] :=
    List.filter_eq_nil_iff.mpr fun ke hke => by have := key_ge_best h sd ke hke; simp; omega
  rw [aggAt, this]
  rfl

theorem bestKey_le_MAXP {b : Book} (h : Inv b) (sd : Side) : (b.side sd).bestKey ≤ MAXP := by
  cases hq : (b.side sd).orders with
  | nil => simp [SideS.bestKey, SMap.first?, hq]
  | cons hd tl =>
    obtain ⟨hk0, hb0⟩ := h.head_key hq
    rw [hk0]
    cases sd <;> simp only [priceKey] <;> omega

theorem MAXP_succ : MAXP + 1 = P32 := rfl

/-- `wrapping_add` of an in-range price and an offset below `2^32`. -/
theorem wrap_add {a x : Nat} (ha : a ≤ MAXP) (hx : x < P32) :
    (a + x) % P32 = if a + x ≤ MAXP then a + x else a + x - P32 := by
  have hM := MAXP_succ
  split
  · exact Nat.mod_eq_of_lt (by omega)
  · rw [Nat.mod_eq_sub_mod (by omega)]
    exact Nat.mod_eq_of_lt (by omega)

/-- `wrapping_sub` of an offset below `2^32` from an in-range price. -/
theorem wrap_sub {a x : Nat} (ha : a ≤ MAXP) (hx : x < P32) :
    (a + P32 - x % P32) % P32 = if x ≤ a then a - x else a + P32 - x := by
  have hM := MAXP_succ
  rw [Nat.mod_eq_of_lt hx]
  split
  · rw [show a + P32 - x = a - x + P32 by omega, Nat.add_mod_right]
    exact Nat.mod_eq_of_lt (by omega)
  · exact Nat.mod_eq_of_lt (by omega)

/-- **Ask levels**: level `i` is the aggregate of the resting asks exactly `i` ticks above the best
ask, and (0, 0) beyond the top of the price range — including when the `u32` probe price wraps. -/
theorem askLevel_correct {b : Book} (h : Inv b) (i : Nat) (hi : i * b.tick < P32) :
    b.ask.volAndOrdersAtKey (priceKey .ask ((b.bidAsk.2 + i * b.tick) % P32)) =
      Views.level (b.orders.map (·.order)) b.tick .ask i := by
  have hbest : Views.bestAsk (b.orders.map (·.order)) = b.ask.bestKey := (bestPrice_correct h .ask).symm
  have hle : b.ask.bestKey ≤ MAXP := bestKey_le_MAXP h .ask
  rw [show b.bidAsk.2 = b.ask.bestKey from rfl, wrap_add hle hi, Views.level, hbest]
  split
  · exact probe_price h .ask _ ‹_›
  · -- the wrapped probe price lies below the best ask
    have hM := MAXP_succ
    exact probe_below h .ask _ (show b.ask.bestKey + i * b.tick - P32 < b.ask.bestKey by omega)

/-- **Bid levels**: level `i` is the aggregate of the resting bids exactly `i` ticks below the best
bid, and (0, 0) below price 0 — including when the `u32` probe price wraps. -/
theorem bidLevel_correct {b : Book} (h : Inv b) (i : Nat) (hi : i * b.tick < P32) :
    b.bid.volAndOrdersAtKey (priceKey .bid ((b.bidAsk.1 + P32 - (i * b.tick) % P32) % P32)) =
      Views.level (b.orders.map (·.order)) b.tick .bid i := by
  have hbest : Views.bestBid (b.orders.map (·.order)) = MAXP - b.bid.bestKey := (bestPrice_correct h .bid).symm
  have hle : b.bid.bestKey ≤ MAXP := bestKey_le_MAXP h .bid
  rw [show b.bidAsk.1 = MAXP - b.bid.bestKey from rfl, wrap_sub (Nat.sub_le _ _) hi, Views.level, hbest]
  split
  · exact probe_price h .bid _ (Nat.le_trans (Nat.sub_le _ _) (Nat.sub_le _ _))
  · -- the wrapped probe price lies above the best bid, so its key below the best key
    have hM := MAXP_succ
    exact probe_below h .bid _ (show MAXP - (MAXP - b.bid.bestKey + P32 - i * b.tick) < b.bid.bestKey by omega)

/-- **Every published view equals its recomputation from the order list** (the views part of the
observation of `b` is the one `Spec.Views` computes from `b`'s orders alone). -/
theorem views_correct {b : Book} (h : Inv b) (n : Nat) (hn : ∀ i, i < n → i * b.tick < P32) :
    let os := b.orders.map (·.order)
    b.bidAsk = (Views.bestBid os, Views.bestAsk os) ∧
    b.bidVol = Views.sideVol os .bid ∧ b.askVol = Views.sideVol os .ask ∧
    b.bidBestVolAndOrders = Views.touch os .bid ∧ b.askBestVolAndOrders = Views.touch os .ask ∧
    b.bidLevels n = Views.levels os b.tick .bid n ∧ b.askLevels n = Views.levels os b.tick .ask n ∧
    b.level1 = Views.level1 os ∧ b.level2 n = Views.level2 os b.tick n ∧ b.mid2 = Views.mid2 os := by
  intro os
  have hb : bestPrice .bid b.bid = Views.bestBid os := bestPrice_correct h .bid
  have ha : bestPrice .ask b.ask = Views.bestAsk os := bestPrice_correct h .ask
  have hvb : b.bid.vol = Views.sideVol os .bid := sideVol_correct h .bid
  have hva : b.ask.vol = Views.sideVol os .ask := sideVol_correct h .ask
  have htb : b.bid.bestVolAndOrders = Views.touch os .bid := touch_correct h .bid
  have hta : b.ask.bestVolAndOrders = Views.touch os .ask := touch_correct h .ask
  have hl : b.bidLevels n = Views.levels os b.tick .bid n ∧ b.askLevels n = Views.levels os b.tick .ask n :=
    ⟨List.map_congr_left fun i hi => bidLevel_correct h i (hn i (List.mem_range.mp hi)),
     List.map_congr_left fun i hi => askLevel_correct h i (hn i (List.mem_range.mp hi))⟩
  have hba : b.bidAsk = (Views.bestBid os, Views.bestAsk os) := by rw [Book.bidAsk, hb, ha]
  refine ⟨hba, hvb, hva, htb, hta, hl.1, hl.2, ?_, ?_, ?_⟩
  · simp only [Book.level1, Views.level1, hba, Book.bidVol, Book.askVol, hvb, hva, Book.bidBestVolAndOrders,
      Book.askBestVolAndOrders, htb, hta]
  · simp only [Book.level2, Views.level2, hba, Book.bidVol, Book.askVol, hvb, hva, hl.1, hl.2]
  · simp only [Book.mid2, Views.mid2, hba]

end Bourse

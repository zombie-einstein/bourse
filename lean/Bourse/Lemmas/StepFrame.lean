/-
The frame of the match loop and of the order operations: what they never change — clock, tick
size, trading flag — and what they only let grow — stamp counter, table length, trade log and
traded-volume counter, fault flags (`Frame`); for whole operations also that nothing is logged while
trading is disabled (`OpFrame`, `step_opFrame`); and what clock, trading switch and counter reset
leave alone (`AdminFrame`).
-/
import Bourse.Lemmas.MatchFrame
import Bourse.Lemmas.Dispatch

namespace Bourse
namespace Book

/-- `b'` is `b` after fills, queue insertions and removals, and table writes. -/
structure Frame (b b' : Book) : Prop where
  t : b'.t = b.t
  tick : b'.tick = b.tick
  trading : b'.trading = b.trading
  stamp : b.stamp ≤ b'.stamp
  len : b.orders.length ≤ b'.orders.length
  /-- the log grew by records stamped with the book time, the counter by their volume -/
  ledger : ∃ new : List Trade, b'.trades = b.trades ++ new ∧
    b'.tradeVol = b.tradeVol + (new.map (·.vol)).sum ∧ ∀ tr ∈ new, tr.t = b.t
  sticky : b.faulted = true → b'.faulted = true
  /-- the counter overflows only into a fault -/
  counter : b'.faulted = false → b.tradeVol < P32 → b'.tradeVol < P32

theorem Frame.refl (b : Book) : Frame b b where
  t := rfl
  tick := rfl
  trading := rfl
  stamp := Nat.le_refl _
  len := Nat.le_refl _
  ledger := ⟨[], by simp⟩
  sticky := id
  counter := fun _ h => h

theorem Frame.unfaulted {b b' : Book} (h : Frame b b') (hnf : b'.faulted = false) : b.faulted = false := by
  cases hc : b.faulted with
  | false => rfl
  | true => rw [h.sticky hc] at hnf; cases hnf

theorem Frame.trans {a b c : Book} (h1 : Frame a b) (h2 : Frame b c) : Frame a c where
  t := h2.t.trans h1.t
  tick := h2.tick.trans h1.tick
  trading := h2.trading.trans h1.trading
  stamp := Nat.le_trans h1.stamp h2.stamp
  len := Nat.le_trans h1.len h2.len
  ledger := by
    obtain ⟨n1, e1, v1, t1⟩ := h1.ledger
    obtain ⟨n2, e2, v2, t2⟩ := h2.ledger
    refine ⟨n1 ++ n2, by simp [e2, e1], by simp [v2, v1, Nat.add_assoc], fun tr h => ?_⟩
    rcases List.mem_append.mp h with h | h
    · exact t1 tr h
    · rw [t2 tr h, h1.t]
  sticky := fun h => h2.sticky (h1.sticky h)
  counter := fun hc hb => h2.counter hc (h1.counter (h2.unfaulted hc) hb)

theorem _root_.Bourse.SideS.removeOrder_sticky (s : SideS) (pk st vol : Nat) (h : s.fault = true) :
    (s.removeOrder pk st vol).fault = true := by
  simp only [SideS.removeOrder]; split <;> simp [h]

theorem _root_.Bourse.SideS.removeVol_sticky (s : SideS) (pk vol : Nat) (h : s.fault = true) :
    (s.removeVol pk vol).fault = true := by
  simp only [SideS.removeVol]; split <;> simp [h]

theorem _root_.Bourse.SideS.insertOrder_sticky (s : SideS) (pk st id vol : Nat) (h : s.fault = true) :
    (s.insertOrder pk st id vol).fault = true := by
  simp only [SideS.insertOrder]; split <;> simp [h]

theorem setSide_sticky (b : Book) (sd : Side) (s : SideS) (h : (b.side sd).fault = true → s.fault = true)
    (hf : b.faulted = true) : (b.setSide sd s).faulted = true := by
  -- were the new book unfaulted, so were the old one: its flag, `s` and with it the old side, the other side
  cases hc : (b.setSide sd s).faulted with
  | true => rfl
  | false =>
    obtain ⟨h0, hs⟩ := faulted_eq_false.mp hc
    have hown : (b.side sd).fault = false := by
      cases hb : (b.side sd).fault with
      | false => rfl
      | true => have := hs sd; rw [side_setSide, h hb] at this; cases this
    have hopp := hs sd.opp
    rw [side_setSide_opp] at hopp
    rw [faulted_eq_false.mpr ⟨(setSide_fault b sd s).symm.trans h0, sd.forall_of hown hopp⟩] at hf
    cases hf

/-- The fault flags after a fill: those of the book with its opposite side updated, or a counter
overflow. -/
theorem fillStep_faulted (sd : Side) (b : Book) (e : Entry) (id : Nat) (m : Entry) :
    (fillStep sd b e id m).1.faulted =
      ((b.setSide sd.opp
        (if (matchOrders b.t e.order m.order).2.1.status = .filled
          then (b.side sd.opp).removeOrder m.key.pk m.key.st (matchOrders b.t e.order m.order).2.2.2
          else (b.side sd.opp).removeVol m.key.pk (matchOrders b.t e.order m.order).2.2.2)).faulted ||
       decide (b.tradeVol + (matchOrders b.t e.order m.order).2.2.2 ≥ P32)) := by
  cases sd <;> simp only [fillStep, faulted, setSide, Side.opp] <;> ac_rfl

theorem enqueue_sticky (sd : Side) (b : Book) (e : Entry) (pk : Nat) (hf : b.faulted = true) :
    (enqueue sd b e pk).1.faulted = true :=
  setSide_sticky { b with stamp := b.stamp + 1 } sd _ (fun h => SideS.insertOrder_sticky _ _ _ _ _ h)
    (by simpa [faulted] using hf)

theorem fillStep_frame (sd : Side) (b : Book) (e : Entry) (id : Nat) (m : Entry) :
    Frame b (fillStep sd b e id m).1 := by
  have hvol : (fillStep sd b e id m).1.tradeVol = b.tradeVol + (matchOrders b.t e.order m.order).2.2.2 := rfl
  refine ⟨setSide_t _ _ _, setSide_tick _ _ _, setSide_trading _ _ _, Nat.le_of_eq (fillStep_stamp sd b e id m).symm,
    by rw [fillStep_orders, List.length_set]; exact Nat.le_refl _,
    ⟨[(matchOrders b.t e.order m.order).2.2.1], rfl, by rw [hvol]; simp [matchOrders], by simp [matchOrders]⟩,
    fun hf => ?_, fun hf hb => ?_⟩
  · rw [fillStep_faulted, Bool.or_eq_true]
    refine Or.inl (setSide_sticky b sd.opp _ (fun h => ?_) hf)
    split
    · exact SideS.removeOrder_sticky _ _ _ _ h
    · exact SideS.removeVol_sticky _ _ _ h
  · rw [fillStep_faulted, Bool.or_eq_false_iff, decide_eq_false_iff_not] at hf
    rw [hvol]
    exact Nat.lt_of_not_le hf.2

theorem fault_frame (b : Book) : Frame b { b with fault := true } :=
  ⟨rfl, rfl, rfl, Nat.le_refl _, Nat.le_refl _, ⟨[], by simp⟩, fun _ => by simp [faulted], fun _ h => h⟩

theorem matchLoop_frame (sd : Side) (fuel : Nat) (b : Book) (e : Entry) :
    Frame b (matchLoop sd fuel b e).1 :=
  matchLoop_induct sd (P := fun b' _ => Frame b b') (fun b' _ h => h.trans (fault_frame b'))
    (fun b' e' id m h _ => h.trans (fillStep_frame sd b' e' id m)) fuel b e (Frame.refl b)

/-! An operation, unlike the bare loop, matches only while trading is enabled. -/

/-- `b'` is `b` after order operations. -/
structure OpFrame (b b' : Book) : Prop extends Frame b b' where
  /-- nothing is logged while trading is disabled -/
  quiet : b.trading = false → b'.trades = b.trades

theorem OpFrame.refl (b : Book) : OpFrame b b := ⟨Frame.refl b, fun _ => rfl⟩

theorem OpFrame.trans {a b c : Book} (h1 : OpFrame a b) (h2 : OpFrame b c) : OpFrame a c :=
  ⟨h1.toFrame.trans h2.toFrame, fun h => (h2.quiet (h1.trading.trans h)).trans (h1.quiet h)⟩

theorem OpFrame.of_same {b b' : Book} (ht : b'.t = b.t) (htick : b'.tick = b.tick)
    (htr : b'.trading = b.trading) (hst : b.stamp ≤ b'.stamp) (hlen : b.orders.length ≤ b'.orders.length)
    (hlog : b'.trades = b.trades) (hvol : b'.tradeVol = b.tradeVol)
    (hf : b.faulted = true → b'.faulted = true) : OpFrame b b' :=
  ⟨⟨ht, htick, htr, hst, hlen, ⟨[], by simp [hlog, hvol]⟩, hf, fun _ h => hvol ▸ h⟩, fun _ => hlog⟩

theorem matchIfTrading_opFrame (sd : Side) (b : Book) (e : Entry) : OpFrame b (matchIfTrading sd b e).1 :=
  matchIfTrading_shapes (motive := fun r => OpFrame b r.1) sd b e
    (fun ht => ⟨matchLoop_frame _ _ _ _, fun h => by rw [ht] at h; cases h⟩) (fun _ => .refl b)

theorem enqueue_opFrame (sd : Side) (b : Book) (e : Entry) (pk : Nat) : OpFrame b (enqueue sd b e pk).1 :=
  OpFrame.of_same (by simp) (by simp) (by simp) (by simp [enqueue]) (by simp) (by simp) (by simp)
    (enqueue_sticky sd b e pk)

theorem restUnlessFilled_opFrame (sd : Side) (r : Book × Entry) (pk : Nat) :
    OpFrame r.1 (restUnlessFilled sd r pk).1 := by
  unfold restUnlessFilled
  split
  · exact enqueue_opFrame _ _ _ _
  · exact OpFrame.refl _

theorem setSide_opFrame (b : Book) (sd : Side) (s : SideS) (h : (b.side sd).fault = true → s.fault = true) :
    OpFrame b (b.setSide sd s) :=
  OpFrame.of_same (by simp) (by simp) (by simp) (by simp) (by simp) (by simp) (by simp) (setSide_sticky b sd s h)

theorem dequeue_opFrame (b : Book) (e : Entry) : OpFrame b (b.dequeue e) :=
  setSide_opFrame b _ _ (SideS.removeOrder_sticky _ _ _ _)

theorem setOrder_opFrame (b : Book) (id : Nat) (e : Entry) : OpFrame b { b with orders := b.orders.set id e } :=
  OpFrame.of_same rfl rfl rfl (Nat.le_refl _) (by simp) rfl rfl (fun h => h)

theorem writeBack_opFrame {b : Book} {r : Book × Entry} (h : OpFrame b r.1) (id : Nat) : OpFrame b (writeBack r id) :=
  h.trans (setOrder_opFrame r.1 id r.2)

theorem fault_opFrame (b : Book) : OpFrame b { b with fault := true } := ⟨fault_frame b, fun _ => rfl⟩

theorem placeMarket_opFrame (sd : Side) (b : Book) (e : Entry) : OpFrame b (placeMarket sd b e).1 := by
  by_cases ht : b.trading = true
  · have := matchIfTrading_opFrame sd b e
    rw [matchIfTrading, if_pos ht] at this
    rwa [placeMarket_on sd b e ht, cancelRemainder_fst]
  · rw [placeMarket_off sd b e (by simpa using ht)]
    exact OpFrame.refl b

theorem placeOrder_opFrame (b : Book) (id : Nat) : OpFrame b (b.placeOrder id) :=
  placeOrder_shapes (motive := OpFrame b) b id (fun _ => fault_opFrame b) (fun _ _ _ => OpFrame.refl b)
    (fun _ _ _ _ => writeBack_opFrame (placeMarket_opFrame _ b _) id)
    (fun _ _ _ _ => writeBack_opFrame ((matchIfTrading_opFrame _ b _).trans (restUnlessFilled_opFrame _ _ _)) id)

theorem cancelOrder_opFrame (b : Book) (id : Nat) : OpFrame b (b.cancelOrder id) :=
  cancelOrder_shapes (motive := OpFrame b) b id (fun _ => fault_opFrame b) (fun _ _ _ => OpFrame.refl b)
    (fun e _ _ => (dequeue_opFrame b e).trans (setOrder_opFrame _ id _))

theorem modifyOrder_opFrame (b : Book) (id : Nat) (p v : Option Nat) : OpFrame b (b.modifyOrder id p v) :=
  modifyOrder_shapes (motive := OpFrame b) b id p v (fun _ => fault_opFrame b) (fun _ _ _ => OpFrame.refl b)
    (fun _ _ _ _ _ _ _ => writeBack_opFrame (setSide_opFrame b _ _ (SideS.removeVol_sticky _ _ _)) id)
    (fun e _ _ _ _ _ _ => writeBack_opFrame ((dequeue_opFrame b e).trans
      ((matchIfTrading_opFrame _ _ _).trans (restUnlessFilled_opFrame _ _ _))) id)

theorem createOrder_opFrame (b : Book) (sd : Side) (vol tr : Nat) (p : Option Nat) :
    OpFrame b (b.createOrder sd vol tr p).1 :=
  createOrder_shapes (motive := fun r => OpFrame b r.1) b sd vol tr p (fun _ _ _ => OpFrame.refl b)
    (fun _ => OpFrame.of_same rfl rfl rfl (Nat.le_refl _) (by simp) rfl rfl (fun h => h))

theorem reload_stamp (b : Book) : b.stamp ≤ b.reload.stamp := by
  have : ∀ (l : List Entry) (acc : SideS × SideS × Nat), acc.2.2 ≤ (l.foldl loadStep acc).2.2 := by
    intro l
    induction l with
    | nil => intro acc; exact Nat.le_refl _
    | cons e l ih =>
      intro acc
      refine Nat.le_trans ?_ (ih _)
      unfold loadStep
      split
      · split <;> exact Nat.le_max_left _ _
      · exact Nat.le_refl _
  exact this b.orders (SideS.empty, SideS.empty, b.stamp)

/-- **The frame of a step**: every operation on orders, and a reload. -/
theorem step_opFrame (b : Book) (op : Op) (h : ¬ op.Admin) : OpFrame b (b.step op).1 := by
  refine step_shapes (motive := fun op r => ¬ op.Admin → OpFrame b r.1) b
    (fun sd vol tr p _ => createOrder_opFrame b sd vol tr p) (fun id _ => placeOrder_opFrame b id)
    (fun sd vol tr p id _ _ => (createOrder_opFrame b sd vol tr p).trans (placeOrder_opFrame _ id))
    (fun sd vol tr p _ _ _ _ => createOrder_opFrame b sd vol tr p) (fun id _ => cancelOrder_opFrame b id)
    (fun id p v _ => modifyOrder_opFrame b id p v) ?_ (fun _ ha hn => absurd ha hn)
    (fun _ _ => OpFrame.refl b) (fun hf _ => ?_) op h
  · intro e r hr _
    cases e <;> exact hr (fun hc => by cases hc)
  · exact OpFrame.of_same rfl rfl rfl (reload_stamp b) (Nat.le_refl _) rfl rfl
      (fun hc => by rw [hf] at hc; cases hc)

/-- An operation on the book as a whole — clock, trading switch, counter reset — keeps tick size,
stamp counter and log; the traded-volume counter stays or is reset. -/
structure AdminFrame (b b' : Book) : Prop where
  tick : b'.tick = b.tick
  stamp : b'.stamp = b.stamp
  trades : b'.trades = b.trades
  counter : b'.tradeVol = b.tradeVol ∨ b'.tradeVol = 0

theorem admin_frame (b : Book) {op : Op} (h : op.Admin) : AdminFrame b (b.step op).1 := by
  cases h with
  | time t => exact ⟨rfl, rfl, rfl, .inl rfl⟩
  | trading on => cases on <;> exact ⟨rfl, rfl, rfl, .inl rfl⟩
  | resetVol => exact ⟨rfl, rfl, rfl, .inr rfl⟩

end Book
end Bourse

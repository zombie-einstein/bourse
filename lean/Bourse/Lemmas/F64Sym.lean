/-
Sign symmetry of `f64` arithmetic: rounding commutes with negation, so do `+`, `×`, `÷` by a positive
value; `abs` forgets the sign. Used for the mirror symmetry of the momentum signal (C17) in the
arithmetic the Rust code performs. Also here, because they come from the same rule of signs: `×` and
`÷` by a positive finite value leave an infinity as it is (`mul_inf_fin`, `div_inf_fin`; the price
helpers of `F64Prices` need them).
-/
import Bourse.Lemmas.F64Round

namespace Bourse
namespace F64

@[simp] theorem neg_neg' (a : F) : neg (neg a) = a := by
  cases a <;> simp [neg]

theorem rnd_neg (x : ℚ) : rnd (-x) = neg (rnd x) := by
  -- both signs of `x` round the same magnitude `rndPos |x|`
  have flip : ∀ y : ℚ,
      (if pow2 1024 ≤ rndPos y then F.ninf else .fin (-(rndPos y))) =
        neg (if pow2 1024 ≤ rndPos y then .pinf else .fin (rndPos y)) := by
    intro y
    split <;> rfl
  rcases lt_trichotomy x 0 with h | h | h
  · rw [rnd_of_pos (neg_pos.mpr h), rnd_of_neg h, flip, neg_neg']
  · rw [h, neg_zero, rnd_zero]
    exact congrArg F.fin neg_zero.symm
  · rw [rnd_of_neg (neg_lt_zero.mpr h), rnd_of_pos h, neg_neg, flip]

theorem add_neg_neg (a b : F) : add (neg a) (neg b) = neg (add a b) := by
  cases a <;> cases b <;> try rfl
  rename_i x y
  show rnd (-x + -y) = neg (rnd (x + y))
  rw [← rnd_neg]; congr 1; ring

theorem sub_neg_neg (a b : F) : sub (neg a) (neg b) = neg (sub a b) := by
  unfold sub; rw [add_neg_neg]

/-- The rule of signs: the product when a factor is infinite, from the product of the signs of the
factors (`0 · ∞` is NaN). `mul` is this by definition outside finite × finite and NaN. -/
def ofSign (s : ℤ) : F := if s = 0 then .nan else if s > 0 then .pinf else .ninf

theorem ofSign_neg (s : ℤ) : ofSign (-s) = neg (ofSign s) := by
  unfold ofSign
  rcases lt_trichotomy s 0 with h | h | h
  · rw [if_neg (by omega), if_pos (by omega), if_neg (by omega), if_neg (by omega)]; rfl
  · subst h; rfl
  · rw [if_neg (by omega), if_neg (by omega), if_neg (by omega), if_pos h]; rfl

theorem sgn_neg (a : F) : sgn (neg a) = -sgn a := by
  cases a with
  | fin r =>
    show (if -r < 0 then (-1 : ℤ) else if -r = 0 then 0 else 1) = -(if r < 0 then -1 else if r = 0 then 0 else 1)
    rcases lt_trichotomy r 0 with h | h | h
    · rw [if_neg (not_lt.mpr (neg_nonneg.mpr h.le)), if_neg (neg_ne_zero.mpr h.ne), if_pos h]; rfl
    · rw [h, neg_zero, if_neg (lt_irrefl _), if_pos rfl]; rfl
    · rw [if_pos (neg_lt_zero.mpr h), if_neg (not_lt.mpr h.le), if_neg h.ne']
  | pinf => rfl
  | ninf => rfl
  | nan => rfl

/-- Unless both factors are finite, `×` is the rule of signs (`sgn NaN = 0` makes NaN absorbing). -/
theorem mul_of_not_fin {a b : F} (h : (∀ x, a ≠ .fin x) ∨ (∀ y, b ≠ .fin y)) : mul a b = ofSign (sgn a * sgn b) := by
  cases a with
  | nan =>
    rw [show sgn .nan = 0 from rfl, zero_mul]
    cases b <;> rfl
  | fin x =>
    cases b with
    | fin y => exact (h.elim (fun h => h x rfl) (fun h => h y rfl)).elim
    | nan => rw [show sgn .nan = 0 from rfl, mul_zero]; rfl
    | pinf => rfl
    | ninf => rfl
  | pinf => cases b <;> rfl
  | ninf => cases b <;> rfl

theorem not_fin_neg {a : F} (h : ∀ x, a ≠ .fin x) (x : ℚ) : neg a ≠ .fin x := by
  cases a with
  | fin r => exact (h r rfl).elim
  | _ => nofun

theorem fin_or_not_fin (a b : F) : (∃ x y, a = .fin x ∧ b = .fin y) ∨ (∀ x, a ≠ .fin x) ∨ (∀ y, b ≠ .fin y) := by
  cases a with
  | fin x =>
    cases b with
    | fin y => exact .inl ⟨x, y, rfl, rfl⟩
    | _ => exact .inr (.inr fun _ => F.noConfusion)
  | _ => exact .inr (.inl fun _ => F.noConfusion)

theorem mul_neg_left (a b : F) : mul (neg a) b = neg (mul a b) := by
  rcases fin_or_not_fin a b with ⟨x, y, rfl, rfl⟩ | h
  · show rnd (-x * y) = neg (rnd (x * y))
    rw [neg_mul, rnd_neg]
  · rw [mul_of_not_fin (h.imp not_fin_neg id), mul_of_not_fin h, sgn_neg, neg_mul, ofSign_neg]

theorem mul_swap (a b : F) : mul a b = mul b a := by
  rcases fin_or_not_fin a b with ⟨x, y, rfl, rfl⟩ | h
  · show rnd (x * y) = rnd (y * x)
    rw [mul_comm]
  · rw [mul_of_not_fin h, mul_of_not_fin h.symm, mul_comm]

theorem mul_neg_right (a b : F) : mul a (neg b) = neg (mul a b) := by
  rw [mul_swap, mul_neg_left, mul_swap]

theorem mul_inf_fin {x : F} (hx : x = .pinf ∨ x = .ninf) {t : ℚ} (ht : 0 < t) : mul x (.fin t) = x := by
  have hs : sgn (.fin t) = 1 := by simp only [sgn, if_neg (not_lt.mpr ht.le), if_neg ht.ne']
  rcases hx with rfl | rfl
  · rw [mul_of_not_fin (.inl fun _ => F.noConfusion), hs]; rfl
  · rw [mul_of_not_fin (.inl fun _ => F.noConfusion), hs]; rfl

theorem div_inf_fin {x : F} (hx : x = .pinf ∨ x = .ninf) {t : ℚ} (ht : 0 < t) : div x (.fin t) = x := by
  rcases hx with rfl | rfl
  · show (if sgn .pinf * (if t < 0 then -1 else 1) > 0 then F.pinf else .ninf) = .pinf
    rw [if_neg (not_lt.mpr ht.le)]
    rfl
  · show (if sgn .ninf * (if t < 0 then -1 else 1) > 0 then F.pinf else .ninf) = .ninf
    rw [if_neg (not_lt.mpr ht.le)]
    rfl

theorem div_neg_left (a : F) (n : ℚ) (hn : 0 < n) : div (neg a) (.fin n) = neg (div a (.fin n)) := by
  cases a with
  | fin x =>
    show div (.fin (-x)) (.fin n) = neg (div (.fin x) (.fin n))
    simp only [div, if_neg hn.ne']
    rw [neg_div, rnd_neg]
  | nan => rfl
  | pinf => rw [show neg .pinf = .ninf from rfl, div_inf_fin (Or.inr rfl) hn, div_inf_fin (Or.inl rfl) hn]; rfl
  | ninf => rw [show neg .ninf = .pinf from rfl, div_inf_fin (Or.inl rfl) hn, div_inf_fin (Or.inr rfl) hn]; rfl

theorem abs_neg (a : F) : abs (neg a) = abs a := by
  cases a with
  | fin r =>
    show F.fin (if -r < 0 then - -r else -r) = .fin (if r < 0 then -r else r)
    rcases lt_trichotomy r 0 with h | h | h
    · rw [if_neg (not_lt.mpr (neg_nonneg.mpr h.le)), if_pos h]
    · simp only [h, neg_zero, lt_irrefl, if_false]
    · rw [if_pos (neg_lt_zero.mpr h), if_neg (not_lt.mpr h.le), neg_neg]
  | pinf => rfl
  | ninf => rfl
  | nan => rfl

end F64
end Bourse

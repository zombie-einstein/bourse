/-
The order lifecycle as a relation on statuses (C04): which moves are allowed, which statuses are
terminal.
-/
import Bourse.Model.Types

namespace Bourse

/-- Allowed status moves (including staying put). -/
def Adv : Status → Status → Bool
  | .new, _ => true
  | .active, .active | .active, .filled | .active, .cancelled => true
  | .filled, .filled | .cancelled, .cancelled | .rejected, .rejected => true
  | _, _ => false

def isTerminal : Status → Bool
  | .filled | .cancelled | .rejected => true
  | _ => false

theorem Adv_trans {a b c : Status} (h1 : Adv a b = true) (h2 : Adv b c = true) : Adv a c = true := by
  cases a with
  | new => rfl
  | _ => cases b <;> cases h1 <;> cases c <;> first | rfl | cases h2

theorem Adv_terminal {a b : Status} (h : Adv a b = true) (ht : isTerminal a = true) : b = a := by
  cases a <;> cases ht <;> cases b <;> first | rfl | cases h

end Bourse

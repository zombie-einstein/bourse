/-
The priority queues are in price order: reading a side's queue (as the reference engine's id list)
from its head, prices never get better (C01: "best-priced resting orders first"). That the position
within a price is the reference engine's FIFO position is `enqueue_refines`.
-/
import Bourse.Lemmas.Refine

namespace Bourse

/-- In every state satisfying the invariant, each side's queue (as the reference engine's id list)
is sorted by price: an order nearer the head has a better or equal price than any order behind it. -/
theorem queue_price_sorted {b : Book} (h : Inv b) (sd : Side) :
    (absq (b.side sd)).Pairwise (fun i j =>
      Ref.ahead sd (Ref.priceOf (absOrders b.orders) i) (Ref.priceOf (absOrders b.orders) j) = true) := by
  refine List.pairwise_map.mpr (List.Pairwise.imp_of_mem ?_ (h.side sd).so)
  intro x y hx hy hlt
  -- keys in order have price keys in order, and on in-range prices a price key orders prices as `ahead` does
  obtain ⟨e, he, q⟩ := (h.side sd).row hx
  obtain ⟨e', he', q'⟩ := (h.side sd).row hy
  have hle : x.1.1 ≤ y.1.1 := by
    simp only [KeyOrd.lt, Bool.or_eq_true, Bool.and_eq_true, decide_eq_true_eq] at hlt
    omega
  have hp : (absOrders b.orders)[x.2]? = some e.order := abs_get_of he
  have hp' : (absOrders b.orders)[y.2]? = some e'.order := abs_get_of he'
  rw [priceOf_of_get hp, priceOf_of_get hp']
  rw [q.pk, q'.pk] at hle
  have hb := q.price_le
  have hb' := q'.price_le
  cases sd <;> simp only [priceKey, Ref.ahead, decide_eq_true_eq] at hle ⊢ <;> omega

/-- Hence the head of a non-empty queue carries the side's best price among all resting orders. -/
theorem queue_head_is_best {b : Book} (h : Inv b) (sd : Side) (i : Nat) (rest : List Nat)
    (hq : absq (b.side sd) = i :: rest) :
    ∀ j ∈ rest, Ref.ahead sd (Ref.priceOf (absOrders b.orders) i) (Ref.priceOf (absOrders b.orders) j) = true := by
  have := queue_price_sorted h sd
  rw [hq] at this
  exact (List.pairwise_cons.mp this).1

end Bourse

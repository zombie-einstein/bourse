/-
A snapshot text cut short at any byte is rejected (C07, last sentence): the argument is about
bracket depth. `scan` walks a text keeping (depth, inside-a-string). Whatever the reader accepts is
*balanced*, the scan ends at depth 0 outside a string (`parse_balanced`, JsonParse); every text the
writers produce for an object is `'{' :: w ++ ['}']` with `w` *good*, balanced and never dipping
below its starting depth (`renderW_good`, JsonRender), so every non-empty strict prefix is scanned
to depth ≥ 1 (`wrap_prefix_depth`) and is not accepted (`prefix_rejected_of_good`, JsonParse;
`take_renderW_rejected`, JsonRoundTrip). This file: the scanner, what is good, and the character
classes both sides use.

Predicates on texts and characters: `plain`, `AllWs`, `Bal`, `Good` here; `Eats` in JsonParse;
`StrOk`, `Term` in JsonRoundTrip.
-/
import Bourse.Model.Json

namespace Bourse
namespace Json

theorem prefix_wrap_cases {α} {p w : List α} {x c : α} (h : p <+: x :: w ++ [c]) :
    p = [] ∨ (∃ q, p = x :: q ∧ q <+: w) ∨ p = x :: w ++ [c] := by
  rw [List.cons_append] at h
  rcases List.prefix_cons_iff.mp h with rfl | ⟨t, rfl, ht⟩
  · exact Or.inl rfl
  · rcases List.prefix_concat_iff.mp ht with rfl | ht
    · exact Or.inr (Or.inr rfl)
    · exact Or.inr (Or.inl ⟨t, rfl, ht⟩)

def stepI (st : Int × Bool) (c : Char) : Int × Bool :=
  if st.2 then (if c = '"' then (st.1, false) else st)
  else if c = '"' then (st.1, true)
  else if c = '{' ∨ c = '[' then (st.1 + 1, false)
  else if c = '}' ∨ c = ']' then (st.1 - 1, false)
  else st

def scan (st : Int × Bool) (w : List Char) : Int × Bool := w.foldl stepI st

@[simp] theorem scan_nil (st : Int × Bool) : scan st [] = st := rfl
@[simp] theorem scan_cons (st : Int × Bool) (c : Char) (w : List Char) : scan st (c :: w) = scan (stepI st c) w := rfl
theorem scan_append (st : Int × Bool) (a b : List Char) : scan st (a ++ b) = scan (scan st a) b := by
  simp [scan, List.foldl_append]

theorem stepI_shift (d k : Int) (b : Bool) (c : Char) :
    stepI (d + k, b) c = ((stepI (d, b) c).1 + k, (stepI (d, b) c).2) := by
  cases b
  · simp only [stepI, Bool.false_eq_true, if_false]
    split
    · rfl
    · split
      · simp only [Prod.mk.injEq, and_true]; omega
      · split
        · simp only [Prod.mk.injEq, and_true]; omega
        · rfl
  · simp only [stepI, if_true]
    split <;> rfl

theorem scan_shift (d k : Int) (b : Bool) (w : List Char) :
    scan (d + k, b) w = ((scan (d, b) w).1 + k, (scan (d, b) w).2) := by
  induction w generalizing d b with
  | nil => rfl
  | cons c w ih =>
    rw [scan_cons, scan_cons, stepI_shift, ih]

/-- Balanced: scanning from any depth outside a string returns to that depth outside a string. -/
def Bal (w : List Char) : Prop := ∀ d : Int, scan (d, false) w = (d, false)

/-- Good: balanced, and no prefix dips below the starting depth. -/
def Good (w : List Char) : Prop := Bal w ∧ ∀ p, p <+: w → 0 ≤ (scan (0, false) p).1

theorem bal_of_zero {w : List Char} (h : scan (0, false) w = (0, false)) : Bal w := by
  intro d
  have := scan_shift 0 d false w
  rw [h] at this
  simpa using this

theorem bal_append {a b : List Char} (ha : Bal a) (hb : Bal b) : Bal (a ++ b) := by
  intro d; rw [scan_append, ha d, hb d]

theorem good_append {a b : List Char} (ha : Good a) (hb : Good b) : Good (a ++ b) := by
  refine ⟨bal_append ha.1 hb.1, ?_⟩
  intro p hp
  rcases List.prefix_or_prefix_of_prefix hp (List.prefix_append a b) with h | ⟨p', rfl⟩
  · exact ha.2 p h
  · rw [scan_append, ha.1 0]
    exact hb.2 p' ((List.prefix_append_right_inj a).mp hp)

def plain (c : Char) : Prop := c ≠ '"' ∧ c ≠ '{' ∧ c ≠ '[' ∧ c ≠ '}' ∧ c ≠ ']'

instance : DecidablePred plain := fun c => by unfold plain; infer_instance

theorem stepI_plain (d : Int) (c : Char) (h : plain c) : stepI (d, false) c = (d, false) := by
  obtain ⟨h1, h2, h3, h4, h5⟩ := h
  simp [stepI, h1, h2, h3, h4, h5]

theorem stepI_quote (d : Int) : stepI (d, false) '"' = (d, true) := by simp [stepI]

theorem stepI_inStr (d : Int) {c : Char} (h : c ≠ '"') : stepI (d, true) c = (d, true) := by simp [stepI, h]

theorem stepI_open (d : Int) {o : Char} (h : o = '{' ∨ o = '[') : stepI (d, false) o = (d + 1, false) := by
  rcases h with rfl | rfl <;> simp [stepI]

theorem stepI_close (d : Int) {c : Char} (h : c = '}' ∨ c = ']') : stepI (d, false) c = (d - 1, false) := by
  rcases h with rfl | rfl <;> simp [stepI]

theorem scan_fixed {st : Int × Bool} {w : List Char} (h : ∀ c ∈ w, stepI st c = st) : scan st w = st := by
  induction w with
  | nil => rfl
  | cons c w ih =>
    rw [scan_cons, h c List.mem_cons_self]
    exact ih fun x hx => h x (List.mem_cons_of_mem _ hx)

theorem scan_plain (d : Int) (w : List Char) (h : ∀ c ∈ w, plain c) : scan (d, false) w = (d, false) :=
  scan_fixed fun c hc => stepI_plain d c (h c hc)

theorem good_plain {w : List Char} (h : ∀ c ∈ w, plain c) : Good w := by
  refine ⟨fun d => scan_plain d w h, ?_⟩
  intro p hp
  rw [scan_plain 0 p (fun c hc => h c (hp.subset hc))]
  exact Int.le_refl 0

def AllWs (w : List Char) : Prop := ∀ c ∈ w, isWs c = true

theorem isWs_plain {c : Char} (h : isWs c = true) : plain c := by
  unfold isWs at h
  simp only [Bool.or_eq_true, beq_iff_eq] at h
  rcases h with ((h | h) | h) | h <;> subst h <;> decide

theorem AllWs.good {w : List Char} (h : AllWs w) : Good w := good_plain fun c hc => isWs_plain (h c hc)

/-- How the reader tells a number from everything else. -/
theorem isDigit_ne {c d : Char} (h : isDigit c = true) (hd : isDigit d = false) : c ≠ d := by
  intro e
  rw [e, hd] at h
  cases h

theorem isDigit_plain {c : Char} (h : isDigit c = true) : plain c :=
  ⟨isDigit_ne h (by decide), isDigit_ne h (by decide), isDigit_ne h (by decide), isDigit_ne h (by decide),
    isDigit_ne h (by decide)⟩

theorem isDigit_not_ws {c : Char} (h : isDigit c = true) : isWs c = false := by
  cases hw : isWs c with
  | false => rfl
  | true =>
    simp only [isWs, Bool.or_eq_true, beq_iff_eq] at hw
    rcases hw with ((rfl | rfl) | rfl) | rfl <;> exact absurd h (by decide)

theorem good_nil : Good [] := good_plain nofun

theorem scan_inStr (d : Int) (s : List Char) (h : '"' ∉ s) : scan (d, true) s = (d, true) :=
  scan_fixed fun _ hc => stepI_inStr d fun e => h (e ▸ hc)

theorem scan_quote (d : Int) (s : List Char) (h : '"' ∉ s) : scan (d, false) (quote s) = (d, false) := by
  unfold quote
  rw [List.cons_append, scan_cons, stepI_quote, scan_append, scan_inStr d s h]
  simp [stepI]

theorem scan_fst_inStr_prefix (d : Int) (p : List Char) : (scan (d, true) p).1 = d ∨
    ∃ a b, p = a ++ '"' :: b ∧ '"' ∉ a := by
  induction p with
  | nil => left; rfl
  | cons c p ih =>
    by_cases hc : c = '"'
    · right; exact ⟨[], p, by rw [hc]; rfl, by simp⟩
    · rcases ih with h | ⟨a, b, hab, ha⟩
      · left
        rw [scan_cons, stepI_inStr d hc]
        exact h
      · right
        refine ⟨c :: a, b, by rw [hab]; rfl, ?_⟩
        intro hm
        rcases List.mem_cons.mp hm with h | h
        · exact hc h.symm
        · exact ha h

theorem good_quote {s : List Char} (h : '"' ∉ s) : Good (quote s) := by
  refine ⟨fun d => scan_quote d s h, fun p hp => ?_⟩
  rcases prefix_wrap_cases hp with rfl | ⟨q, rfl, hq⟩ | rfl
  · exact Int.le_refl 0
  · rw [scan_cons, stepI_quote, scan_inStr 0 q (fun hm => h (hq.subset hm))]
    exact Int.le_refl 0
  · rw [← quote, scan_quote 0 s h]
    exact Int.le_refl 0

/-- **Strict prefixes of a wrapped good text sit at depth ≥ 1.** -/
theorem wrap_prefix_depth {w : List Char} (h : Good w) (o c : Char) (ho : o = '{' ∨ o = '[')
    (p : List Char) (hp : p <+: o :: w ++ [c]) (hne : p ≠ o :: w ++ [c]) (hnil : p ≠ []) :
    1 ≤ (scan (0, false) p).1 := by
  rcases prefix_wrap_cases hp with rfl | ⟨q, rfl, hq⟩ | rfl
  · exact absurd rfl hnil
  · have h0 := h.2 q hq
    rw [scan_cons, stepI_open 0 ho, scan_shift 0 1 false q]
    simp only
    omega
  · exact absurd rfl hne

theorem good_wrap {w : List Char} (h : Good w) (o c : Char) (ho : o = '{' ∨ o = '[') (hc : c = '}' ∨ c = ']') :
    Good (o :: w ++ [c]) := by
  have hbal : Bal (o :: w ++ [c]) := by
    intro d
    rw [List.cons_append, scan_cons, stepI_open d ho, scan_append, h.1 (d + 1), scan_cons, scan_nil, stepI_close _ hc]
    simp
  refine ⟨hbal, fun p hp => ?_⟩
  by_cases hnil : p = []
  · rw [hnil]
    exact Int.le_refl 0
  by_cases hne : p = o :: w ++ [c]
  · rw [hne, hbal 0]
    exact Int.le_refl 0
  · exact Int.le_trans (by decide) (wrap_prefix_depth h o c ho p hp hne hnil)

end Json
end Bourse

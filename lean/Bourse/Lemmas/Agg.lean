/-
Aggregates of a side's queue (per price key: total volume and order count; total volume), defined
from the queue list and the order table, and how they change under insertion / removal.
-/
import Bourse.Lemmas.SMapLemmas
import Bourse.Model.Book

namespace Bourse

/-- Remaining volume of order `id` according to the table. -/
def volOf (os : List Entry) (id : Nat) : Nat := ((os[id]?).map (·.order.vol)).getD 0

/-- Entries of a queue at price key `pk`. -/
def atKey (q : SMap (Nat × Nat) Nat) (pk : Nat) : List ((Nat × Nat) × Nat) := q.filter (fun e => e.1.1 = pk)

/-- (total volume, number of orders) queued at price key `pk`. -/
def aggAt (os : List Entry) (q : SMap (Nat × Nat) Nat) (pk : Nat) : Nat × Nat :=
  (((atKey q pk).map (fun e => volOf os e.2)).sum, (atKey q pk).length)

def totalVol (os : List Entry) (q : SMap (Nat × Nat) Nat) : Nat := (q.map (fun e => volOf os e.2)).sum

theorem aggAt_perm (os : List Entry) {q q' : SMap (Nat × Nat) Nat} (h : q.Perm q') (pk : Nat) :
    aggAt os q pk = aggAt os q' pk := by
  have hp : (atKey q pk).Perm (atKey q' pk) := h.filter _
  simp only [aggAt]
  rw [(hp.map _).sum_nat, hp.length_eq]

theorem totalVol_perm (os : List Entry) {q q' : SMap (Nat × Nat) Nat} (h : q.Perm q') :
    totalVol os q = totalVol os q' := (h.map _).sum_nat

theorem aggAt_cons (os : List Entry) (k : Nat × Nat) (id : Nat) (q : SMap (Nat × Nat) Nat) (pk : Nat) :
    aggAt os ((k, id) :: q) pk =
      if k.1 = pk then ((aggAt os q pk).1 + volOf os id, (aggAt os q pk).2 + 1) else aggAt os q pk := by
  simp only [aggAt, atKey, List.filter_cons]
  by_cases h : k.1 = pk
  · simp [h, Nat.add_comm]
  · simp [h]

theorem totalVol_cons (os : List Entry) (k : Nat × Nat) (id : Nat) (q : SMap (Nat × Nat) Nat) :
    totalVol os ((k, id) :: q) = volOf os id + totalVol os q := by
  simp [totalVol]

theorem aggAt_congr (os os' : List Entry) (q : SMap (Nat × Nat) Nat) (pk : Nat)
    (h : ∀ e ∈ q, volOf os' e.2 = volOf os e.2) : aggAt os' q pk = aggAt os q pk := by
  rw [aggAt, aggAt, List.map_congr_left fun e (he : e ∈ atKey q pk) => h e (List.mem_filter.mp he).1]

theorem totalVol_congr (os os' : List Entry) (q : SMap (Nat × Nat) Nat)
    (h : ∀ e ∈ q, volOf os' e.2 = volOf os e.2) : totalVol os' q = totalVol os q := by
  rw [totalVol, totalVol, List.map_congr_left h]

theorem volOf_set_ne (os : List Entry) (i j : Nat) (e : Entry) (h : i ≠ j) : volOf (os.set i e) j = volOf os j := by
  simp [volOf, h]

theorem volOf_append (os : List Entry) (x : Entry) (id : Nat) (h : id < os.length) :
    volOf (os ++ [x]) id = volOf os id := by
  simp [volOf, List.getElem?_append_left h]

theorem volOf_of_get {os : List Entry} {id : Nat} {e : Entry} (h : os[id]? = some e) : volOf os id = e.order.vol := by
  simp [volOf, h]

theorem volOf_set_self (os : List Entry) (i : Nat) (e : Entry) (h : i < os.length) :
    volOf (os.set i e) i = e.order.vol := by
  simp [volOf, h]

/-! `insert_order`, `remove_order` and `remove_vol` all change one queue entry `(k, id)` and row `id` of
the table; the rest `r` of the queue does not mention `id`. -/

theorem aggAt_split (os : List Entry) {q r : SMap (Nat × Nat) Nat} {k : Nat × Nat} {id : Nat}
    (hp : q.Perm ((k, id) :: r)) (pk : Nat) :
    aggAt os q pk =
      if k.1 = pk then ((aggAt os r pk).1 + volOf os id, (aggAt os r pk).2 + 1) else aggAt os r pk := by
  rw [aggAt_perm os hp, aggAt_cons]

theorem totalVol_split (os : List Entry) {q r : SMap (Nat × Nat) Nat} {k : Nat × Nat} {id : Nat}
    (hp : q.Perm ((k, id) :: r)) : totalVol os q = volOf os id + totalVol os r := by
  rw [totalVol_perm os hp, totalVol_cons]

theorem volOf_set_of_not_mem {os : List Entry} {r : SMap (Nat × Nat) Nat} {id : Nat} (e' : Entry)
    (hni : ∀ k, (k, id) ∉ r) : ∀ x ∈ r, volOf (os.set id e') x.2 = volOf os x.2 :=
  fun x hx => volOf_set_ne os id x.2 e' (fun hc => hni x.1 (by rw [hc]; exact hx))

theorem aggAt_set_of_not_mem {os : List Entry} {r : SMap (Nat × Nat) Nat} {id : Nat} (e' : Entry)
    (hni : ∀ k, (k, id) ∉ r) (pk : Nat) : aggAt (os.set id e') r pk = aggAt os r pk :=
  aggAt_congr _ _ _ _ (volOf_set_of_not_mem e' hni)

theorem totalVol_set_of_not_mem {os : List Entry} {r : SMap (Nat × Nat) Nat} {id : Nat} (e' : Entry)
    (hni : ∀ k, (k, id) ∉ r) : totalVol (os.set id e') r = totalVol os r :=
  totalVol_congr _ _ _ (volOf_set_of_not_mem e' hni)

/-- The level map after the level at `pk` was rewritten: if it matched the aggregates `f` before and
the aggregates `g` differ from `f` only at `pk`, it matches `g`. -/
theorem level_update {vols vols' : SMap Nat (Nat × Nat)} {f g : Nat → Nat × Nat} (pk : Nat)
    (h : ∀ pk', SMap.find? pk' vols = if (f pk').2 = 0 then none else some (f pk'))
    (hg : ∀ pk', pk' ≠ pk → g pk' = f pk')
    (hv : ∀ pk', SMap.find? pk' vols' =
      if pk' = pk then (if (g pk).2 = 0 then none else some (g pk)) else SMap.find? pk' vols) (pk' : Nat) :
    SMap.find? pk' vols' = if (g pk').2 = 0 then none else some (g pk') := by
  rw [hv pk']
  by_cases hpk : pk' = pk
  · rw [if_pos hpk, hpk]
  · rw [if_neg hpk, hg pk' hpk]; exact h pk'

theorem aggAt_le_total (os : List Entry) (q : SMap (Nat × Nat) Nat) (pk : Nat) : (aggAt os q pk).1 ≤ totalVol os q := by
  induction q with
  | nil => simp [aggAt, atKey, totalVol]
  | cons hd tl ih =>
    obtain ⟨k, id⟩ := hd
    rw [aggAt_cons, totalVol_cons]
    split
    · simp only; omega
    · omega

end Bourse

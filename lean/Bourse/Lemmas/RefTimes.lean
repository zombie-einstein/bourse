/-
Arrival and end times (C04): what one operation of the reference engine does to the time fields
of every order record. (Transferred to the implementation model in `RefTransfer`, combined with the
one-way lifecycle theorem in `Props/C04`.)
-/
import Bourse.Lemmas.RefArrival
import Bourse.Lemmas.Status

namespace Bourse

/-- Evolution of a record inside the match loop / `enter`: the arrival time is kept; either status
and end time are kept, or the record has become terminal with end time `t`. -/
def Evo (t : Nat) (o o' : Order) : Prop :=
  o'.arr = o.arr ∧ ((o'.status = o.status ∧ o'.endt = o.endt) ∨ (isTerminal o'.status = true ∧ o'.endt = t))

theorem Evo.ne_new {t : Nat} {o o' : Order} (h : Evo t o o') (ho : o.status ≠ .new) : o'.status ≠ .new := by
  rcases h.2 with ⟨hs, _⟩ | ⟨hs, _⟩
  · rw [hs]; exact ho
  · intro hc; rw [hc] at hs; cases hs

theorem Ref.Filled.evo {t : Nat} {o o' : Order} (h : Ref.Filled t o o') : Evo t o o' :=
  ⟨h.1.arr, h.2.imp id fun ⟨hs, he⟩ => ⟨by rw [hs]; rfl, he⟩⟩

theorem matchQ_evo (t : Nat) (q : List Nat) (st : Ref.MatchSt) :
    (∀ (id : Nat) (o : Order), st.orders[id]? = some o →
        ∃ o', (Ref.matchQ t q st).2.orders[id]? = some o' ∧ Evo t o o') ∧
    Evo t st.agg (Ref.matchQ t q st).2.agg ∧
    (∀ (id : Nat), id ∉ q → (Ref.matchQ t q st).2.orders[id]? = st.orders[id]?) := by
  obtain ⟨h1, h2, _⟩ := Ref.matchQ_rel (Ref.filled_fillRel t) q st
  exact ⟨fun id o h => (h1 id o h).imp fun _ h' => ⟨h'.1, h'.2.evo⟩, h2.evo, Ref.matchQ_frame t q st⟩

theorem enter_evo (s : Ref.RState) (agg : Order) (market : Bool) :
    (∀ (id : Nat) (o : Order), s.orders[id]? = some o →
        ∃ o', (Ref.enter s agg market).1.orders[id]? = some o' ∧ Evo s.t o o') ∧
    Evo s.t agg (Ref.enter s agg market).2 ∧
    (∀ (id : Nat), id ∉ s.queue agg.side.opp → (Ref.enter s agg market).1.orders[id]? = s.orders[id]?) := by
  obtain ⟨g1, g2, g4, _⟩ := Ref.matchPhase_rel (Ref.filled_fillRel s.t) agg
  rw [(Ref.enter_orders s agg market).1]
  refine ⟨fun id o h => (g1 id o h).imp fun _ h' => ⟨h'.1, h'.2.evo⟩, ?_, g4⟩
  rcases Ref.enter_snd s agg market with ⟨he, _⟩ | ⟨_, st, hst, he⟩
  · rw [he]; exact g2.evo
  · rw [he]
    exact ⟨g2.1.arr, Or.inr ⟨by rcases hst with rfl | rfl <;> rfl, rfl⟩⟩

/-- What one operation at book time `t` may do to the time fields of an order record. -/
structure StepT (t : Nat) (o o' : Order) : Prop where
  /-- after placement the arrival time never changes -/
  arrKept : o.status ≠ .new → o'.arr = o.arr
  /-- a New order is untouched, or has been placed now -/
  arrSet : o.status = .new → o' = o ∨ (o'.status ≠ .new ∧ o'.arr = t)
  /-- the end time changes only at the moment the order becomes terminal … -/
  endKept : ¬(isTerminal o'.status = true ∧ isTerminal o.status = false) → o'.endt = o.endt
  /-- … and then it is the book time -/
  endSet : isTerminal o'.status = true → isTerminal o.status = false → o'.endt = t
  /-- a terminal record never changes -/
  term : isTerminal o.status = true → o' = o

theorem StepT.of_eq (t : Nat) (o : Order) : StepT t o o := by
  refine ⟨fun _ => rfl, fun _ => Or.inl rfl, fun _ => rfl, ?_, fun _ => rfl⟩
  intro h1 h2; rw [h1] at h2; cases h2

theorem StepT.cancelled (t : Nat) (o : Order) (ha : o.status = .active) :
    StepT t o { o with status := .cancelled, endt := t } := by
  refine ⟨fun _ => rfl, ?_, ?_, fun _ _ => rfl, ?_⟩
  · intro h; rw [ha] at h; cases h
  · intro h; exact absurd ⟨rfl, by rw [ha]; rfl⟩ h
  · intro h; rw [ha] at h; cases h

theorem StepT.of_evo_active {t : Nat} {o o' : Order} (ha : o.status = .active) (he : Evo t o o') : StepT t o o' := by
  refine ⟨fun _ => he.1, ?_, ?_, ?_, ?_⟩
  · intro h; rw [ha] at h; cases h
  · intro hn
    rcases he.2 with ⟨_, h2⟩ | ⟨h1, _⟩
    · exact h2
    · exact absurd ⟨h1, by rw [ha]; rfl⟩ hn
  · intro h1 _
    rcases he.2 with ⟨h3, _⟩ | ⟨_, h4⟩
    · rw [h3, ha] at h1; cases h1
    · exact h4
  · intro h; rw [ha] at h; cases h

theorem StepT.placed {t : Nat} {o o' : Order} (hn : o.status = .new)
    (he : Evo t { o with status := .active, arr := t } o') : StepT t o o' := by
  have hnn : o'.status ≠ .new := he.ne_new (by simp)
  refine ⟨fun h => absurd hn h, fun _ => Or.inr ⟨hnn, he.1⟩, fun hk => ?_, fun h1 _ => ?_, fun h => by rw [hn] at h; cases h⟩
  · rcases he.2 with ⟨_, h⟩ | ⟨h, _⟩
    · exact h
    · exact absurd ⟨h, by rw [hn]; rfl⟩ hk
  · rcases he.2 with ⟨h, _⟩ | ⟨_, h⟩
    · rw [h] at h1; cases h1
    · exact h

/-- **The time fields under every shape of operation**: existing records evolve by `StepT`; a record
that did not exist is, unless terminal, without end time. -/
theorem Ref.StepCase.times {s s' : Ref.RState} {op : Op} (hc : Ref.StepCase s op s') (hw : QWf s) :
    (∀ (id : Nat) (o : Order), s.orders[id]? = some o → ∃ o', s'.orders[id]? = some o' ∧ StepT s.t o o') ∧
    (∀ (id : Nat) (o' : Order), s.orders[id]? = none → s'.orders[id]? = some o' →
      isTerminal o'.status = false → o'.endt = MAXT) := by
  have nofresh : (∀ (id : Nat), s.orders[id]? = none → s'.orders[id]? = none) →
      ∀ (id : Nat) (o' : Order), s.orders[id]? = none → s'.orders[id]? = some o' →
        isTerminal o'.status = false → o'.endt = MAXT := fun h id o' hn hs => by rw [h id hn] at hs; cases hs
  -- an arrival: the arriving record by `hown`, a matched one by `Evo`
  have arrive : ∀ {s0 : Ref.RState} {id0 : Nat} {o0 : Order} (a : Arrival s0 id0 o0) (agg : Order) (market : Bool),
      (∀ o', Evo s0.t agg o' → StepT s0.t o0 o') → ∀ id o, s0.orders[id]? = some o →
        ∃ o', (Ref.enterAt s0 id0 agg market).orders[id]? = some o' ∧ StepT s0.t o o' :=
    fun a agg market hown => a.rel (StepT.of_eq _) agg market (hown _ (enter_evo _ agg market).2.1)
      fun _ _ ha hf => StepT.of_evo_active ha hf.evo
  cases hc with
  | quiet ho => exact ⟨fun id o h => ⟨o, ho ▸ h, StepT.of_eq _ o⟩, nofresh fun id h => ho ▸ h⟩
  | create sd vol tr p =>
    refine ⟨fun id o ho => ⟨o, getElem?_append_some ho _, StepT.of_eq _ o⟩, fun id o' hn hs _ => ?_⟩
    rcases getElem?_append_one hs with h | ⟨_, _, rfl⟩
    · rw [hn] at h; cases h
    · rfl
  | cancel id0 o0 h0 ha =>
    exact ⟨fun _ _ => getElem?_set_rel (StepT.of_eq _) h0 (StepT.cancelled s.t o0 ha),
      nofresh fun _ => getElem?_set_none _ _ _ _⟩
  | reduce id0 o0 v h0 ha =>
    exact ⟨fun _ _ => getElem?_set_rel (StepT.of_eq _) h0 (x := { o0 with vol := v })
        (StepT.of_evo_active ha ⟨rfl, .inl ⟨rfl, rfl⟩⟩), nofresh fun _ => getElem?_set_none _ _ _ _⟩
  | place id0 o0 h0 hn =>
    exact ⟨arrive (hw.arrive_place h0 hn) _ _ fun _ => StepT.placed hn, nofresh fun id h => Ref.enterAt_none h ..⟩
  | cap sd vol tr p =>
    have hold := arrive (hw.arrive_cap sd vol tr p) { Ref.newOrder s sd vol tr p with status := .active, arr := s.t }
      (Book.isMarket (Ref.newOrder s sd vol tr p)) fun _ => StepT.placed rfl
    refine ⟨fun id o ho => hold id o (getElem?_append_some ho _), fun id o' hn hs hnt => ?_⟩
    by_cases hid : id = s.orders.length
    · -- the new record itself: placed now, so open-ended unless terminal
      subst hid
      obtain ⟨o'', ho'', hst⟩ := hold _ _ (Ref.created_new ..)
      rw [hs] at ho''; cases ho''
      rw [hst.endKept (by rw [hnt]; simp)]; rfl
    · have hge : s.orders.length ≤ id := List.getElem?_eq_none_iff.mp hn
      rw [Ref.enterAt_none (List.getElem?_eq_none_iff.mpr (by simp [Ref.created]; omega))] at hs
      cases hs
  | reenter id0 o0 np nv h0 ha =>
    refine ⟨fun id o ho => ?_, nofresh fun id h => Ref.enterAt_none (by rw [Ref.unqueue_orders]; exact h) ..⟩
    have := arrive (hw.arrive_reenter h0) { o0 with vol := nv.getD o0.vol, price := np.getD o0.price } false
      (fun _ he => StepT.of_evo_active ha he) id o (by rw [Ref.unqueue_orders]; exact ho)
    rwa [Ref.unqueue_t] at this

theorem ref_step_times (s : Ref.RState) (hw : QWf s) (op : Op) (id : Nat) (o : Order) (ho : s.orders[id]? = some o) :
    ∃ o', (Ref.step s op).1.orders[id]? = some o' ∧ StepT s.t o o' :=
  ((Ref.step_case s op).times hw).1 id o ho

theorem Ref.place_not_new (s : Ref.RState) (id : Nat) (o : Order) (ho : s.orders[id]? = some o) (hn : o.status = .new) :
    ∃ o', (Ref.place s id).orders[id]? = some o' ∧ o'.status ≠ .new := by
  rw [Ref.place_new ho hn, Ref.enterAt_get (List.getElem?_eq_some_iff.mp ho).1, if_pos rfl]
  exact ⟨_, rfl, (enter_evo s { o with status := .active, arr := s.t } (Book.isMarket o)).2.1.ne_new (by simp)⟩

theorem Ref.cancel_active (s : Ref.RState) (id : Nat) (o : Order) (ho : s.orders[id]? = some o) (ha : o.status = .active) :
    (Ref.cancel s id).orders[id]? = some { o with status := .cancelled, endt := s.t } := by
  simp only [Ref.cancel, ho, ha, if_true]
  exact List.getElem?_set_self (List.getElem?_eq_some_iff.mp ho).1

/-- Orders that are not (yet) terminal carry no end time. -/
def OpenNoEnd (s : Ref.RState) : Prop :=
  ∀ (id : Nat) (o : Order), s.orders[id]? = some o → isTerminal o.status = false → o.endt = MAXT

theorem openNoEnd_of_times {s s' : Ref.RState} {t : Nat} (hP : OpenNoEnd s)
    (hex : ∀ (id : Nat) (o : Order), s.orders[id]? = some o → ∃ o', s'.orders[id]? = some o' ∧ StepT t o o')
    (hfresh : ∀ (id : Nat) (o' : Order), s.orders[id]? = none → s'.orders[id]? = some o' →
      isTerminal o'.status = false → o'.endt = MAXT) : OpenNoEnd s' := by
  intro id o' ho' hnt
  cases hs : s.orders[id]? with
  | none => exact hfresh id o' hs ho' hnt
  | some o =>
    obtain ⟨o'', ho'', hst⟩ := hex id o hs
    rw [ho'] at ho''; cases ho''
    rw [hst.endKept (by rw [hnt]; simp)]
    exact hP id o hs (Bool.eq_false_iff.mpr fun hc => by rw [hst.term hc, hc] at hnt; cases hnt)

theorem ref_step_openNoEnd (s : Ref.RState) (hw : QWf s) (hP : OpenNoEnd s) (op : Op) :
    OpenNoEnd (Ref.step s op).1 :=
  openNoEnd_of_times hP ((Ref.step_case s op).times hw).1 ((Ref.step_case s op).times hw).2

end Bourse

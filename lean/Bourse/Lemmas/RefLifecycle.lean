/-
The one-way lifecycle on the reference engine (C04): through every operation each record's status
only advances, its identity is kept, and a terminal record never changes. Matching moves a resting
record Active → Active/Filled (`Ref.Filled`); records that are not queued are not touched; the arriving
order's own record is the only one `enter` may cancel or reject.
-/
import Bourse.Lemmas.RefArrival
import Bourse.Lemmas.Status

namespace Bourse

/-- `o'` is a legal successor of the record `o`. -/
def OrderAdv (o o' : Order) : Prop :=
  Adv o.status o'.status = true ∧ o'.id = o.id ∧ o'.side = o.side ∧ o'.trader = o.trader ∧ o'.svol = o.svol ∧
  (isTerminal o.status = true → o' = o)

theorem OrderAdv.refl (o : Order) : OrderAdv o o := by
  refine ⟨?_, rfl, rfl, rfl, rfl, fun _ => rfl⟩
  cases o.status <;> rfl

theorem OrderAdv.trans {a b c : Order} (h1 : OrderAdv a b) (h2 : OrderAdv b c) : OrderAdv a c := by
  obtain ⟨s1, i1, d1, t1, v1, f1⟩ := h1
  obtain ⟨s2, i2, d2, t2, v2, f2⟩ := h2
  refine ⟨Adv_trans s1 s2, i2.trans i1, d2.trans d1, t2.trans t1, v2.trans v1, fun ht => ?_⟩
  -- a terminal record stays put, so the second step starts from a terminal record too
  have hb := f1 ht
  rw [f2 (by rw [hb]; exact ht), hb]

theorem OrderAdv.of_live {o x : Order} (hlive : o.status = .new ∨ o.status = .active)
    (hid : x.id = o.id ∧ x.side = o.side ∧ x.trader = o.trader ∧ x.svol = o.svol) (st : Status) (e : Nat)
    (hst : Adv o.status st = true) : OrderAdv o { x with status := st, endt := e } := by
  refine ⟨hst, hid.1, hid.2.1, hid.2.2.1, hid.2.2.2, fun ht => ?_⟩
  rcases hlive with hl | hl <;> rw [hl] at ht <;> cases ht

theorem OrderAdv.of_active {t : Nat} {o o' : Order} (ha : o.status = .active) (hf : Ref.Filled t o o') : OrderAdv o o' := by
  refine ⟨?_, hf.1.id, hf.1.side, hf.1.trader, hf.1.svol, fun ht => by rw [ha] at ht; cases ht⟩
  rcases hf.status with h | h <;> rw [h, ha] <;> rfl

/-- **What `enter` returns is a legal successor of the stored record** `o0`, when the record `agg` it
arrives with is Active and has `o0`'s identity; a market order (the only kind that may be cancelled
or rejected on arrival) arrives from New only. -/
theorem enter_adv {s0 : Ref.RState} {o0 agg : Order} {market : Bool}
    (hlive : o0.status = .new ∨ o0.status = .active) (ha : agg.status = .active)
    (hident : agg.id = o0.id ∧ agg.side = o0.side ∧ agg.trader = o0.trader ∧ agg.svol = o0.svol)
    (hm : market = true → o0.status = .new) : OrderAdv o0 (Ref.enter s0 agg market).2 := by
  have hagg := (Ref.matchPhase_rel (Ref.filled_fillRel s0.t) agg).2.1
  have hid : (Ref.matchPhase s0 agg).2.id = o0.id ∧ (Ref.matchPhase s0 agg).2.side = o0.side ∧
      (Ref.matchPhase s0 agg).2.trader = o0.trader ∧ (Ref.matchPhase s0 agg).2.svol = o0.svol :=
    ⟨hagg.1.id.trans hident.1, hagg.1.side.trans hident.2.1, hagg.1.trader.trans hident.2.2.1,
      hagg.1.svol.trans hident.2.2.2⟩
  rcases Ref.enter_snd s0 agg market with ⟨he, _⟩ | ⟨hmk, st, hst, he⟩
  · -- the match phase's record: Active as it arrived, or Filled
    rw [he]
    refine OrderAdv.of_live hlive hid (Ref.matchPhase s0 agg).2.status (Ref.matchPhase s0 agg).2.endt ?_
    rcases hlive with hl | hl
    · rw [hl]; rfl
    · rcases hagg.status with h | h <;> rw [hl, h]
      · rw [ha]; rfl
      · rfl
  · -- discarded or rejected: a market order, which arrives from New
    rw [he]
    exact OrderAdv.of_live hlive hid st s0.t (by rw [hm hmk]; rfl)

theorem Ref.StepCase.adv {s s' : Ref.RState} {op : Op} (hc : Ref.StepCase s op s') (hw : QWf s)
    (id : Nat) (o : Order) (ho : s.orders[id]? = some o) : ∃ o', s'.orders[id]? = some o' ∧ OrderAdv o o' := by
  cases hc with
  | quiet hos => exact ⟨o, hos ▸ ho, OrderAdv.refl o⟩
  | create sd vol tr p => exact ⟨o, getElem?_append_some ho _, OrderAdv.refl o⟩
  | cancel id0 o0 h0 ha =>
    exact getElem?_set_rel OrderAdv.refl h0
      (OrderAdv.of_live (.inr ha) (x := o0) ⟨rfl, rfl, rfl, rfl⟩ .cancelled s.t (by rw [ha]; rfl)) ho
  | reduce id0 o0 v h0 ha =>
    exact getElem?_set_rel OrderAdv.refl h0
      (OrderAdv.of_live (.inr ha) (x := { o0 with vol := v }) ⟨rfl, rfl, rfl, rfl⟩ o0.status o0.endt (by rw [ha]; rfl)) ho
  | place id0 o0 h0 hn =>
    exact (hw.arrive_place h0 hn).rel OrderAdv.refl _ _
      (enter_adv (agg := { o0 with status := .active, arr := s.t }) (.inl hn) rfl ⟨rfl, rfl, rfl, rfl⟩ fun _ => hn)
      (fun _ _ => OrderAdv.of_active) id o ho
  | cap sd vol tr p =>
    exact (hw.arrive_cap sd vol tr p).rel OrderAdv.refl _ _
      (enter_adv (agg := { Ref.newOrder s sd vol tr p with status := .active, arr := s.t }) (.inl rfl) rfl
        ⟨rfl, rfl, rfl, rfl⟩ fun _ => rfl)
      (fun _ _ => OrderAdv.of_active) id o (getElem?_append_some ho _)
  | reenter id0 o0 np nv h0 ha =>
    exact (hw.arrive_reenter h0).rel OrderAdv.refl _ false
      (enter_adv (agg := { o0 with vol := nv.getD o0.vol, price := np.getD o0.price }) (.inr ha) ha
        ⟨rfl, rfl, rfl, rfl⟩ fun h => by cases h)
      (fun _ _ => OrderAdv.of_active) id o (by rw [Ref.unqueue_orders]; exact ho)

end Bourse

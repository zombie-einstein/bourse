/-
Refinement, operation by operation: each public operation of the implementation model commutes
with the abstraction map onto the reference engine.
-/
import Bourse.Lemmas.Refine
import Bourse.Lemmas.RefStepCases

namespace Bourse

theorem abs_setSide (b : Book) (sd : Side) (s : SideS) : abs (b.setSide sd s) = (abs b).setQueue sd (absq s) := by
  cases sd <;> rfl

/-- A book that differs from `b` as matching for side `sd` allows, abstracted: the reference state
with the loop's result written over it. -/
theorem abs_afterLoop {sd : Side} {b b' : Book} (e' : Entry) (ht : b'.t = b.t) (htick : b'.tick = b.tick)
    (htr : b'.trading = b.trading) (hown : b'.side sd = b.side sd) :
    abs b' = Ref.afterLoop (abs b) sd (absq (b'.side sd.opp), absMatch b' e') := by
  cases sd <;> simp only [Book.side] at hown <;>
    simp [abs, Ref.afterLoop, Ref.RState.setQueue, absMatch, Side.opp, Book.side, ht, htick, htr, hown]

theorem matchIfTrading_refines {b : Book} {a : Nat} (h : LoopInv b a) (sd : Side) (e : Entry)
    (hside : e.order.side = sd) (hnf : (Book.matchIfTrading sd b e).1.faulted = false) :
    abs (Book.matchIfTrading sd b e).1 = (Ref.matchPhase (abs b) e.order).1 ∧
    (Book.matchIfTrading sd b e).2.order = (Ref.matchPhase (abs b) e.order).2 := by
  by_cases ht : b.trading = true
  · rw [Book.matchIfTrading_on sd b e ht] at hnf ⊢
    have hr := matchLoop_refines h sd (Book.matchFuel b sd) e hside (by simp [Book.matchFuel]) hnf
    have hq : Ref.matchQ (abs b).t ((abs b).queue e.order.side.opp)
          ⟨(abs b).orders, (abs b).trades, (abs b).tradeVol, e.order⟩ =
        (absq ((Book.matchLoop sd (Book.matchFuel b sd) b e).1.side sd.opp),
         absMatch (Book.matchLoop sd (Book.matchFuel b sd) b e).1 (Book.matchLoop sd (Book.matchFuel b sd) b e).2) := by
      rw [hside, abs_queue]
      exact Prod.ext hr.1.symm hr.2.symm
    have F := Book.matchLoop_frame sd (Book.matchFuel b sd) b e
    rw [Ref.matchPhase_on (s := abs b) ht, hq, hside]
    exact ⟨abs_afterLoop _ F.t F.tick F.trading (Book.matchLoop_matchFrame sd _ b e).own, rfl⟩
  · have ht' : b.trading = false := by simpa using ht
    rw [Ref.matchPhase_off (s := abs b) ht', Book.matchIfTrading_off sd b e ht']
    exact ⟨rfl, rfl⟩

/-- On prices within 32 bits, "ahead" is the order of the price keys. -/
theorem ahead_iff_key (sd : Side) {p q : Nat} (hp : p ≤ MAXP) (hq : q ≤ MAXP) :
    Ref.ahead sd p q = decide (priceKey sd p ≤ priceKey sd q) := by
  cases sd
  · exact decide_eq_decide.mpr ⟨fun h => Nat.sub_le_sub_left h MAXP, fun h => by simp only [priceKey] at h; omega⟩
  · rfl

/-- Queueing under the next stamp is queueing behind every order with a better or equal price. -/
theorem enqueue_refines {b : Book} {a : Nat} (h : LoopInv b a) (sd : Side) (e : Entry) (pk : Nat)
    (hpk : pk = priceKey sd e.order.price) (hp : e.order.price ≤ MAXP) :
    abs (Book.enqueue sd b e pk).1 =
      (abs b).setQueue sd (Ref.enqueue (abs b).orders sd ((abs b).queue sd) e.order.id e.order.price) ∧
    (Book.enqueue sd b e pk).2.order = e.order := by
  refine ⟨?_, rfl⟩
  have hs := h.side sd
  -- the two queues are cut at the same place: the price keys are ordered as the prices are
  have hcut : ∀ x ∈ (b.side sd).orders, decide (x.1.1 ≤ pk) =
      ((fun j => Ref.ahead sd (Ref.priceOf (abs b).orders j) e.order.price) ∘ (·.2)) x := by
    rintro ⟨k, j⟩ hx
    obtain ⟨m, hm, hq⟩ := hs.row hx
    simp only [Function.comp]
    rw [priceOf_of_get (abs_get_of hm), hq.pk, hpk, ← ahead_iff_key sd hq.price_le hp]
  have hst : ∀ x ∈ (b.side sd).orders, x.1.2 < b.stamp := fun x hx => by
    obtain ⟨m, -, hq⟩ := hs.row (k := x.1) (id := x.2) hx
    exact hq.st_lt
  have hside1 : ({ b with stamp := b.stamp + 1 } : Book).side sd = b.side sd := by cases sd <;> rfl
  simp only [Book.enqueue, hside1]
  rw [abs_setSide, show abs ({ b with stamp := b.stamp + 1 } : Book) = abs b from rfl, abs_queue]
  congr 1
  simp only [absq, SideS.insertOrder]
  rw [SMap.insert_back _ _ _ _ hst, Ref.enqueue, List.takeWhile_map, List.dropWhile_map,
    ← (takeWhile_dropWhile_congr hcut).1, ← (takeWhile_dropWhile_congr hcut).2]
  simp only [List.map_append, List.map_cons]

theorem abs_writeBack (r : Book × Entry) (id : Nat) :
    abs (Book.writeBack r id) = { abs r.1 with orders := (abs r.1).orders.set id r.2.order } := by
  simp [Book.writeBack, abs, absOrders_set]

theorem limit_refines {b : Book} {a : Nat} (h : LoopInv b a) (sd : Side) (e : Entry) (pk : Nat)
    (hside : e.order.side = sd) (hpk : pk = priceKey sd e.order.price) (hp : e.order.price ≤ MAXP)
    (hnf : (Book.restUnlessFilled sd (Book.matchIfTrading sd b e) pk).1.faulted = false) :
    abs (Book.restUnlessFilled sd (Book.matchIfTrading sd b e) pk).1 = (Ref.enter (abs b) e.order false).1 ∧
    (Book.restUnlessFilled sd (Book.matchIfTrading sd b e) pk).2.order = (Ref.enter (abs b) e.order false).2 := by
  have hident := Book.matchIfTrading_matchFrame sd b e
  rw [Ref.enter_eq, if_neg (by simp)]
  rcases Book.restUnlessFilled_cases sd (Book.matchIfTrading sd b e) pk with ⟨hf, hc⟩ | ⟨hf, hc⟩
  · rw [hc] at hnf ⊢
    have hm := matchIfTrading_refines h sd e hside hnf
    rw [if_pos (hm.2 ▸ hf)]
    exact hm
  · rw [hc] at hnf ⊢
    have hmnf := (Book.enqueue_opFrame sd _ _ pk).unfaulted hnf
    have hm := matchIfTrading_refines h sd e hside hmnf
    have hq := enqueue_refines (matchIfTrading_loopInv h sd e hmnf) sd (Book.matchIfTrading sd b e).2 pk
      (by rw [hident.price]; exact hpk) (by rw [hident.price]; exact hp)
    rw [if_neg (hm.2 ▸ hf), if_neg (by simp), hq.1, hq.2, hm.1, hm.2, hside]
    exact ⟨rfl, rfl⟩

theorem market_refines {b : Book} {a : Nat} (h : LoopInv b a) (sd : Side) (e : Entry)
    (hside : e.order.side = sd) (hnf : (Book.placeMarket sd b e).1.faulted = false) :
    abs (Book.placeMarket sd b e).1 = (Ref.enter (abs b) e.order true).1 ∧
    (Book.placeMarket sd b e).2.order = (Ref.enter (abs b) e.order true).2 := by
  rw [Ref.enter_eq]
  by_cases ht : b.trading = true
  · have hmt : Book.matchSide sd b e = Book.matchIfTrading sd b e := (Book.matchIfTrading_on sd b e ht).symm
    rw [Book.placeMarket_on sd b e ht, hmt] at hnf ⊢
    rw [Book.cancelRemainder_fst] at hnf
    have hm := matchIfTrading_refines h sd e hside hnf
    rw [if_neg (by simp [abs, ht])]
    rcases Book.cancelRemainder_cases (Book.matchIfTrading sd b e) with ⟨hf, hc⟩ | ⟨hf, hc⟩
    · rw [hc, if_pos (hm.2 ▸ hf)]
      exact hm
    · rw [hc, if_neg (hm.2 ▸ hf), if_pos rfl, ← hm.1, ← hm.2]
      exact ⟨rfl, rfl⟩
  · have ht' : b.trading = false := by simpa using ht
    rw [Book.placeMarket_off sd b e ht', if_pos (by simp [abs, ht'])]
    exact ⟨rfl, rfl⟩

end Bourse

/-
Refinement of every public operation and of whole histories: the abstraction of the
implementation model's state after any valid, fault-free history is the reference engine's state
after the same history, and both return the same results along the way.
-/
import Bourse.Lemmas.RefineOps

namespace Bourse

theorem place_refines {b : Book} (h : Inv b) (id : Nat) (hnf : (b.placeOrder id).faulted = false) :
    abs (b.placeOrder id) = Ref.place (abs b) id := by
  refine Book.placeOrder_shapes (motive := fun b' => b'.faulted = false → abs b' = Ref.place (abs b) id) b id
    ?_ ?_ ?_ ?_ hnf
  · intro _ hc; simp [Book.faulted] at hc
  · intro e he hnew _
    simp [Ref.place, abs_get_of he, hnew]
  · intro e he hnew hm hnf
    rw [Book.writeBack_faulted] at hnf
    have hr := market_refines (h.toLoop he (by rw [hnew]; simp)) e.order.side (b.activate e) rfl hnf
    rw [abs_writeBack, hr.1, hr.2]
    simp only [Ref.place, abs_get_of he, hnew, hm]
    rfl
  · intro e he hnew hm hnf
    rw [Book.writeBack_faulted] at hnf
    have hnk := h.newok id e he hnew
    have hr := limit_refines (h.toLoop he (by rw [hnew]; simp)) e.order.side (b.activate e) e.key.pk rfl
      hnk.1 hnk.2.2 hnf
    rw [abs_writeBack, hr.1, hr.2]
    simp only [Ref.place, abs_get_of he, hnew, hm]
    rfl

/-- The reference state after `dequeue`: taking a queued order out of the keyed map erases its id
from the id list. -/
theorem abs_dequeue {b : Book} (h : Inv b) {id : Nat} {e : Entry} (he : b.orders[id]? = some e)
    (hact : e.order.status = .active) :
    abs (b.dequeue e) = Ref.unqueue (abs b) e.order.side id := by
  have hk := h.active_key he hact
  simp only [Book.dequeue, hk.keySide]
  rw [abs_setSide, Ref.unqueue, abs_queue, absq, removeOrder_orders,
    SMap.map_snd_erase _ _ _ (h.side _).so hk.mem (h.side _).ids_nodup]
  rfl

theorem cancel_refines {b : Book} (h : Inv b) (id : Nat) (hnf : (b.cancelOrder id).faulted = false) :
    abs (b.cancelOrder id) = Ref.cancel (abs b) id := by
  refine Book.cancelOrder_shapes (motive := fun b' => b'.faulted = false → abs b' = Ref.cancel (abs b) id) b id
    ?_ ?_ ?_ hnf
  · intro _ hc; simp [Book.faulted] at hc
  · intro e he hact _
    simp [Ref.cancel, abs_get_of he, hact]
  · intro e he hact _
    simp only [Ref.cancel, abs_get_of he, hact, if_true]
    rw [← Ref.unqueue, ← abs_dequeue h he hact]
    simp [abs, absOrders_set]

/-- A re-entering modification refines dequeue + `enter`. -/
theorem replace_refines {b : Book} (h : Inv b) {id : Nat} {e : Entry} (he : b.orders[id]? = some e)
    (hact : e.order.status = .active) (np nv : Nat) (hnp : np ≤ MAXP)
    (hnf : (Book.writeBack (b.replaceOrder e np nv) id).faulted = false) :
    abs (Book.writeBack (b.replaceOrder e np nv) id) =
      Ref.enterAt (Ref.unqueue (abs b) e.order.side id) id { e.order with vol := nv, price := np } false := by
  have hk := h.active_key he hact
  have hl := h.dequeue_loop he hact
  unfold Book.replaceOrder at hnf ⊢
  rw [hk.keySide] at hnf ⊢
  rw [Book.writeBack_faulted] at hnf
  have hr := limit_refines hl e.order.side { e with order := { e.order with vol := nv, price := np } }
    (priceKey e.order.side np) rfl rfl hnp hnf
  rw [abs_writeBack, hr.1, hr.2, abs_dequeue h he hact, Ref.enterAt]

/-- A volume reduction in place changes one row of the reference table and nothing else. -/
theorem abs_reduce (b : Book) (e : Entry) (red id : Nat) :
    abs (Book.writeBack (b.reduceOrderVol e red) id) =
      { abs b with orders := (abs b).orders.set id { e.order with vol := e.order.vol - red } } := by
  have hq : abs (b.setSide e.key.side ((b.side e.key.side).removeVol e.key.pk red)) = abs b := by
    rw [abs_setSide, absq, removeVol_orders, ← absq, ← abs_queue]
    cases e.key.side <;> rfl
  rw [abs_writeBack]
  simp only [Book.reduceOrderVol, hq]

theorem modify_refines {b : Book} (h : Inv b) (id : Nat) (np nv : Option Nat)
    (hpvalid : ∀ p, np = some p → p ≤ MAXP) (hnf : (b.modifyOrder id np nv).faulted = false) :
    abs (b.modifyOrder id np nv) = Ref.modify (abs b) id np nv := by
  have htick : (abs b).tick = b.tick := rfl
  refine Book.modifyOrder_shapes (motive := fun b' => b'.faulted = false → abs b' = Ref.modify (abs b) id np nv)
    b id np nv ?_ ?_ ?_ ?_ hnf
  · intro _ hc; simp [Book.faulted] at hc
  · intro e he hign _
    rcases hign with hg | hna | ⟨rfl, rfl⟩
    · simp [Ref.modify, abs_get_of he, htick, hg]
    · by_cases hg : Book.offGrid b.tick np = true <;> simp [Ref.modify, abs_get_of he, htick, hg, hna]
    · by_cases hna : e.order.status = .active <;> simp [Ref.modify, abs_get_of he, Book.offGrid, hna]
  · intro e v he hact hnp hnv hlt _
    subst hnp hnv
    rw [abs_reduce, Nat.sub_sub_self (Nat.le_of_lt hlt)]
    simp [Ref.modify, abs_get_of he, htick, Book.offGrid, hact, hlt]
  · intro e p v he hact hg hre hnf
    have hp : p ≤ MAXP := by
      cases hre with
      | volume => exact (h.active_key he hact).price_le
      | price p _ => exact hpvalid p rfl
      | both p v _ => exact hpvalid p rfl
    rw [replace_refines h he hact _ _ hp hnf]
    symm
    cases hre with
    | volume v hlt => exact Ref.modify_reenter (abs_get_of he) hact hg (by simp) (by simpa using hlt)
    | _ => exact Ref.modify_reenter (abs_get_of he) hact hg (by simp) (by simp)

theorem create_refines (b : Book) (sd : Side) (vol tr : Nat) (p : Option Nat) :
    abs (b.createOrder sd vol tr p).1 = (Ref.create (abs b) sd vol tr p).1 ∧
    Res.ofCreate (b.createOrder sd vol tr p).2 = (Ref.create (abs b) sd vol tr p).2 := by
  cases p with
  | none => simp [Book.createOrder, Ref.create, abs, absOrders, Res.ofCreate]
  | some q =>
    by_cases hq : (q % b.tick != 0) = true
    · simp [Book.createOrder, Ref.create, hq, abs, Res.ofCreate]
    · simp [Book.createOrder, Ref.create, hq, abs, absOrders, Res.ofCreate]

/-- The reference `create-and-place`, by the result of its `create`. -/
theorem ref_cap_ok {s : Ref.RState} {sd : Side} {vol tr : Nat} {p : Option Nat} {id : Nat}
    (h : (Ref.create s sd vol tr p).2 = .ok id) :
    Ref.step s (.cap sd vol tr p) = (Ref.place (Ref.create s sd vol tr p).1 id, .ok id) := by
  simp only [Ref.step]
  rw [show Ref.create s sd vol tr p = ((Ref.create s sd vol tr p).1, .ok id) from Prod.ext rfl h]

theorem ref_cap_err {s : Ref.RState} {sd : Side} {vol tr : Nat} {p : Option Nat} {q t : Nat}
    (h : (Ref.create s sd vol tr p).2 = .err q t) :
    Ref.step s (.cap sd vol tr p) = ((Ref.create s sd vol tr p).1, .err q t) := by
  simp only [Ref.step]
  rw [show Ref.create s sd vol tr p = ((Ref.create s sd vol tr p).1, .err q t) from Prod.ext rfl h]

/-- **One step.** From a state satisfying the invariant, a valid operation that does not fault
leads the implementation model and the reference engine to corresponding states with the same result. -/
theorem step_refines {b : Book} (h : Inv b) (op : Op) (hv : ValidOp op) (hnf : (b.step op).1.faulted = false) :
    abs (b.step op).1 = (Ref.step (abs b) op).1 ∧ (b.step op).2 = (Ref.step (abs b) op).2 := by
  refine Book.step_shapes (motive := fun op r => ValidOp op → r.1.faulted = false →
      abs r.1 = (Ref.step (abs b) op).1 ∧ r.2 = (Ref.step (abs b) op).2) b
    (fun sd vol tr p _ _ => create_refines b sd vol tr p) (fun id _ hnf => ⟨place_refines h id hnf, rfl⟩)
    ?_ ?_ (fun id _ hnf => ⟨cancel_refines h id hnf, rfl⟩)
    (fun id np nv hv hnf => ⟨modify_refines h id np nv hv.2 hnf, rfl⟩)
    (fun e r hr => by cases e <;> exact hr)
    (fun _ ha _ _ => by cases ha with | trading on => cases on <;> exact ⟨rfl, rfl⟩ | _ => exact ⟨rfl, rfl⟩)
    (fun hf => by rw [h.notFaulted] at hf; cases hf) (fun _ _ _ => by rw [reload_eq h]; exact ⟨rfl, rfl⟩) op hv hnf
  · intro sd vol tr p id hid hv hnf
    obtain ⟨hc1, hc2⟩ := create_refines b sd vol tr p
    rw [ref_cap_ok (by rw [← hc2, hid]; rfl), ← hc1]
    exact ⟨place_refines (h.create sd vol tr p hv.1 hv.2) id hnf, rfl⟩
  · intro sd vol tr p q t hq _ _
    obtain ⟨hc1, hc2⟩ := create_refines b sd vol tr p
    rw [ref_cap_err (by rw [← hc2, hq]; rfl)]
    exact ⟨hc1, rfl⟩

/-- **Every history.** After any valid, fault-free history the implementation model's state
abstracts to exactly the reference engine's state after the same history. -/
theorem run_refines {b : Book} (h : Inv b) (ops : List Op) (hv : ∀ op ∈ ops, ValidOp op) (hnf : NoFault b ops) :
    abs (b.run ops) = Ref.run (abs b) ops := by
  induction ops generalizing b with
  | nil => rfl
  | cons op rest ih =>
    simp only [Book.run, Ref.run, List.foldl_cons]
    have hs := step_refines h op (hv op List.mem_cons_self) hnf.1
    rw [← hs.1]
    exact ih (inv_step h op (hv op List.mem_cons_self) hnf.1) (fun o ho => hv o (List.mem_cons_of_mem _ ho)) hnf.2

theorem abs_new (t0 tick : Nat) (trading : Bool) : abs (Book.new t0 tick trading) = Ref.init t0 tick trading := rfl

theorem abs_run_new (t0 tick : Nat) (trading : Bool) (ht : 0 < tick) (ops : List Op)
    (hv : ∀ op ∈ ops, ValidOp op) (hnf : NoFault (Book.new t0 tick trading) ops) :
    abs ((Book.new t0 tick trading).run ops) = Ref.run (Ref.init t0 tick trading) ops :=
  run_refines (inv_new t0 tick trading ht) ops hv hnf

end Bourse

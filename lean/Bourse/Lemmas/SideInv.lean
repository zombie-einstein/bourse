/-
The invariant of one side of the book, relative to the order table: its preservation by
`insertOrder`, `removeOrder`, `removeVol`, and that it determines the side from its queue.
-/
import Bourse.Lemmas.Agg
import Bourse.Lemmas.ListAux

namespace Bourse

theorem insertOrder_orders (s : SideS) (pk st id vol : Nat) :
    (s.insertOrder pk st id vol).orders = SMap.insert (pk, st) id s.orders := rfl

theorem removeOrder_orders (s : SideS) (pk st vol : Nat) :
    (s.removeOrder pk st vol).orders = SMap.erase (pk, st) s.orders := by
  simp only [SideS.removeOrder]; split <;> rfl

theorem removeVol_orders (s : SideS) (pk vol : Nat) : (s.removeVol pk vol).orders = s.orders := by
  simp only [SideS.removeVol]; split <;> rfl

/-- What a queue entry `(k ↦ id)` of side `sd` says about order `id` in table `os`. -/
def EntryOk (os : List Entry) (sd : Side) (stamp : Nat) (k : Nat × Nat) (id : Nat) : Prop :=
  ∃ e, os[id]? = some e ∧ e.order.status = .active ∧ e.order.side = sd ∧ e.key = ⟨sd, k.1, k.2⟩ ∧
       k.1 = priceKey sd e.order.price ∧ 0 < e.order.vol ∧ k.2 < stamp ∧ e.order.price ≤ MAXP

structure SideInv (os : List Entry) (sd : Side) (s : SideS) (stamp : Nat) : Prop where
  so : SMap.Sorted s.orders
  sv : SMap.Sorted s.volumes
  ent : ∀ k id, (k, id) ∈ s.orders → EntryOk os sd stamp k id
  agg : ∀ pk, SMap.find? pk s.volumes =
          (if (aggAt os s.orders pk).2 = 0 then none else some (aggAt os s.orders pk))
  tot : s.vol = totalVol os s.orders
  /-- no `u32` overflow has happened: the side's total volume fits -/
  bnd : s.vol < P32
  nofault : s.fault = false

theorem aggAt_zero_of_count_zero (os : List Entry) (q : SMap (Nat × Nat) Nat) (pk : Nat)
    (h : (aggAt os q pk).2 = 0) : aggAt os q pk = (0, 0) := by
  simp only [aggAt] at h ⊢
  have : atKey q pk = [] := List.eq_nil_of_length_eq_zero h
  simp [this]

theorem sideInv_empty (os : List Entry) (sd : Side) (stamp : Nat) : SideInv os sd SideS.empty stamp where
  so := SMap.sorted_nil
  sv := SMap.sorted_nil
  ent := by intro k id h; simp [SideS.empty] at h
  agg := by intro pk; simp [SideS.empty, SMap.find?, aggAt, atKey]
  tot := by simp [SideS.empty, totalVol]
  bnd := by simp [SideS.empty, P32]
  nofault := rfl

/-- `EntryOk` once the entry is known to be `e`, by name. -/
structure Queued (sd : Side) (stamp : Nat) (k : Nat × Nat) (e : Entry) : Prop where
  status : e.order.status = .active
  side : e.order.side = sd
  key : e.key = ⟨sd, k.1, k.2⟩
  pk : k.1 = priceKey sd e.order.price
  vol_pos : 0 < e.order.vol
  st_lt : k.2 < stamp
  price_le : e.order.price ≤ MAXP

/-- Back to the conjunction that `EntryOk` holds and `SideInv.insert` takes. -/
theorem Queued.and {sd : Side} {stamp : Nat} {k : Nat × Nat} {e : Entry} (h : Queued sd stamp k e) :
    e.order.status = .active ∧ e.order.side = sd ∧ e.key = ⟨sd, k.1, k.2⟩ ∧ k.1 = priceKey sd e.order.price ∧
      0 < e.order.vol ∧ k.2 < stamp ∧ e.order.price ≤ MAXP :=
  ⟨h.status, h.side, h.key, h.pk, h.vol_pos, h.st_lt, h.price_le⟩

theorem SideInv.row {os : List Entry} {sd : Side} {s : SideS} {stamp : Nat} (h : SideInv os sd s stamp)
    {k : Nat × Nat} {id : Nat} (hm : (k, id) ∈ s.orders) : ∃ e, os[id]? = some e ∧ Queued sd stamp k e := by
  obtain ⟨e, he, h1, h2, h3, h4, h5, h6, h7⟩ := h.ent k id hm
  exact ⟨e, he, h1, h2, h3, h4, h5, h6, h7⟩

theorem SideInv.queued {os : List Entry} {sd : Side} {s : SideS} {stamp : Nat} (h : SideInv os sd s stamp)
    {k : Nat × Nat} {id : Nat} (hm : (k, id) ∈ s.orders) {e : Entry} (he : os[id]? = some e) :
    Queued sd stamp k e := by
  obtain ⟨e', he', hq⟩ := h.row hm
  rw [he] at he'; cases he'
  exact hq

theorem SideInv.key_of_mem {os : List Entry} {sd : Side} {s : SideS} {stamp : Nat} (h : SideInv os sd s stamp)
    {k : Nat × Nat} {id : Nat} (hm : (k, id) ∈ s.orders) {e : Entry} (he : os[id]? = some e) :
    k = (e.key.pk, e.key.st) := by
  rw [(h.queued hm he).key]

theorem SideInv.unique {os : List Entry} {sd : Side} {s : SideS} {stamp : Nat} (h : SideInv os sd s stamp)
    {k k' : Nat × Nat} {id : Nat} (h1 : (k, id) ∈ s.orders) (h2 : (k', id) ∈ s.orders) : k = k' := by
  obtain ⟨e, he, _⟩ := h.row h1
  rw [h.key_of_mem h1 he, h.key_of_mem h2 he]

/-- No id is queued twice: the keys of a sorted queue are distinct, and an id is queued under one key only. -/
theorem SideInv.ids_nodup {os : List Entry} {sd : Side} {s : SideS} {stamp : Nat} (h : SideInv os sd s stamp) :
    (s.orders.map (·.2)).Nodup := by
  refine List.pairwise_map.mpr (List.Pairwise.imp_of_mem ?_ h.so)
  rintro ⟨k, i⟩ ⟨k', j⟩ hx hy hlt hij
  simp only at hij
  subst hij
  rw [h.unique hx hy, LawfulKeyOrd.irrefl] at hlt
  cases hlt

theorem SideInv.not_mem_opp {os : List Entry} {sd : Side} {s s' : SideS} {stamp : Nat}
    (h : SideInv os sd s stamp) (h' : SideInv os sd.opp s' stamp) {k : Nat × Nat} {id : Nat}
    (hm : (k, id) ∈ s.orders) : ∀ k', (k', id) ∉ s'.orders := by
  intro k' hk'
  obtain ⟨e, he, hq⟩ := h.row hm
  have hc : sd.opp = sd := (h'.queued hk' he).side.symm.trans hq.side
  cases sd <;> cases hc

/-- The invariant looks at the table only through the rows of the queued ids: another table with
the same rows there (and a stamp counter no smaller) keeps it. -/
theorem SideInv.congr_table {os os' : List Entry} {sd : Side} {s : SideS} {stamp stamp' : Nat}
    (h : SideInv os sd s stamp) (hget : ∀ x ∈ s.orders, os'[x.2]? = os[x.2]?) (hst : stamp ≤ stamp') :
    SideInv os' sd s stamp' := by
  have hvol : ∀ x ∈ s.orders, volOf os' x.2 = volOf os x.2 := fun x hx => by rw [volOf, volOf, hget x hx]
  refine ⟨h.so, h.sv, fun k id hm => ?_, fun pk => ?_, ?_, h.bnd, h.nofault⟩
  · obtain ⟨e, he, hq⟩ := h.row hm
    exact ⟨e, (hget _ hm).trans he, { hq with st_lt := Nat.lt_of_lt_of_le hq.st_lt hst }.and⟩
  · rw [aggAt_congr os os' s.orders pk hvol]; exact h.agg pk
  · rw [totalVol_congr os os' s.orders hvol]; exact h.tot

theorem SideInv.frame {os : List Entry} {sd : Side} {s : SideS} {stamp stamp' : Nat} (h : SideInv os sd s stamp)
    (i : Nat) (e' : Entry) (hni : ∀ k, (k, i) ∉ s.orders) (hst : stamp ≤ stamp') :
    SideInv (os.set i e') sd s stamp' :=
  h.congr_table (fun x hx => List.getElem?_set_ne fun hc : i = x.2 => hni x.1 (hc ▸ hx)) hst

/-- **`insert_order`.** Queuing order `id` under a fresh key keeps the invariant (unless an
aggregate overflows, which the model flags as a fault). -/
theorem SideInv.insert {os : List Entry} {sd : Side} {s : SideS} {stamp stamp' : Nat} (h : SideInv os sd s stamp)
    (pk st id : Nat) (e' : Entry) (hfresh : SMap.find? (pk, st) s.orders = none) (hni : ∀ k, (k, id) ∉ s.orders)
    (hid : id < os.length) (hst : stamp ≤ stamp')
    (he : e'.order.status = .active ∧ e'.order.side = sd ∧ e'.key = ⟨sd, pk, st⟩ ∧
          pk = priceKey sd e'.order.price ∧ 0 < e'.order.vol ∧ st < stamp' ∧ e'.order.price ≤ MAXP)
    (hnf : (s.insertOrder pk st id e'.order.vol).fault = false) :
    SideInv (os.set id e') sd (s.insertOrder pk st id e'.order.vol) stamp' := by
  have hf := h.frame id e' hni hst
  have hperm := SMap.perm_insert_new (pk, st) id s.orders h.so hfresh
  have hvol : volOf (os.set id e') id = e'.order.vol := volOf_set_self os id e' hid
  have hbnd : (s.insertOrder pk st id e'.order.vol).vol < P32 := by
    simp only [SideS.insertOrder, Bool.or_eq_false_iff, decide_eq_false_iff_not] at hnf
    exact Nat.lt_of_not_le hnf.2
  refine ⟨SMap.sorted_insert _ _ _ h.so, ?_, ?_, ?_, ?_, hbnd, hnf⟩
  · simp only [SideS.insertOrder]
    split <;> exact SMap.sorted_insert _ _ _ h.sv
  · intro k j hm
    rcases (SMap.mem_insert_iff h.so).mp hm with hm | hm
    · cases hm
      exact ⟨e', List.getElem?_set_self hid, he⟩
    · exact hf.ent k j hm.1
  · -- the level at `pk` gains this order (and is created if it was not there); the others are as before
    refine level_update pk hf.agg (fun pk' hne => ?_) (fun pk' => ?_)
    · rw [insertOrder_orders, aggAt_split _ hperm, if_neg (Ne.symm hne)]
    · rw [insertOrder_orders, aggAt_split _ hperm, if_pos rfl, hvol, if_neg (Nat.succ_ne_zero _)]
      have hold := hf.agg pk
      split at hold
      · rename_i hz
        simp only [SideS.insertOrder, hold]
        rw [SMap.find?_insert _ _ _ _ h.sv, aggAt_zero_of_count_zero _ _ _ hz, Nat.zero_add]
      · simp only [SideS.insertOrder, hold]
        rw [SMap.find?_insert _ _ _ _ h.sv]
  · show s.vol + e'.order.vol = totalVol (os.set id e') (SMap.insert (pk, st) id s.orders)
    rw [totalVol_split _ hperm, hvol, hf.tot, Nat.add_comm]

theorem SideInv.mem_erase_of_ne {os : List Entry} {sd : Side} {s : SideS} {stamp : Nat} (h : SideInv os sd s stamp)
    {k k' : Nat × Nat} {id j : Nat} (hm : (k, id) ∈ s.orders) (hj : (k', j) ∈ s.orders) (hji : j ≠ id) :
    (k', j) ∈ SMap.erase k s.orders :=
  (SMap.mem_erase_iff h.so).mpr ⟨hj, fun hc => hji (SMap.val_unique h.so (hc ▸ hj) hm)⟩

theorem SideInv.not_mem_erase {os : List Entry} {sd : Side} {s : SideS} {stamp : Nat} (h : SideInv os sd s stamp)
    {k : Nat × Nat} {id : Nat} (hm : (k, id) ∈ s.orders) : ∀ k', (k', id) ∉ SMap.erase k s.orders := by
  intro k' hk'
  obtain ⟨hk', hne⟩ := (SMap.mem_erase_iff h.so).mp hk'
  exact hne (h.unique hk' hm)

/-- The level of a queued order, read off the invariant: the rest of the level plus this order. -/
theorem SideInv.level_of_mem {os : List Entry} {sd : Side} {s : SideS} {stamp : Nat} (h : SideInv os sd s stamp)
    {pk st id : Nat} (hm : ((pk, st), id) ∈ s.orders) :
    s.orders.Perm (((pk, st), id) :: SMap.erase (pk, st) s.orders) ∧
    SMap.find? pk s.volumes = some ((aggAt os (SMap.erase (pk, st) s.orders) pk).1 + volOf os id,
      (aggAt os (SMap.erase (pk, st) s.orders) pk).2 + 1) := by
  have hperm := SMap.perm_erase (pk, st) id s.orders h.so (SMap.find?_of_mem h.so hm)
  refine ⟨hperm, ?_⟩
  have := h.agg pk
  rwa [aggAt_split os hperm, if_pos rfl, if_neg (Nat.succ_ne_zero _)] at this

/-- **`remove_order`.** Taking the entry of order `id` out of the queue (with its current volume)
keeps the invariant and never faults. -/
theorem SideInv.remove {os : List Entry} {sd : Side} {s : SideS} {stamp : Nat} (h : SideInv os sd s stamp)
    (pk st id : Nat) (e' : Entry) (hm : ((pk, st), id) ∈ s.orders) :
    SideInv (os.set id e') sd (s.removeOrder pk st (volOf os id)) stamp := by
  obtain ⟨hperm, hvolumes⟩ := h.level_of_mem hm
  have hni := h.not_mem_erase hm
  have htot : s.vol = volOf os id + totalVol os (SMap.erase (pk, st) s.orders) := by
    rw [h.tot, totalVol_split os hperm]
  simp only [SideS.removeOrder, hvolumes]
  refine ⟨SMap.sorted_erase _ _ h.so, ?_, ?_, ?_, ?_, Nat.lt_of_le_of_lt (Nat.sub_le _ _) h.bnd, ?_⟩
  · split
    · exact SMap.sorted_erase _ _ h.sv
    · exact SMap.sorted_insert _ _ _ h.sv
  · intro k j (hkj : (k, j) ∈ SMap.erase (pk, st) s.orders)
    obtain ⟨e, he, rest⟩ := h.ent k j ((SMap.mem_erase_iff h.so).mp hkj).1
    exact ⟨e, (List.getElem?_set_ne fun hc : id = j => hni k (hc ▸ hkj)).trans he, rest⟩
  · -- the level at `pk` loses this order (and goes when it was the last); the other levels are as before
    refine level_update pk h.agg (fun pk' hne => ?_) (fun pk' => ?_)
    · rw [aggAt_set_of_not_mem e' hni, aggAt_split os hperm, if_neg (Ne.symm hne)]
    · rw [aggAt_set_of_not_mem e' hni]
      simp only [Nat.add_sub_cancel]
      split
      · rw [SMap.find?_erase _ _ _ h.sv]
      · rw [SMap.find?_insert _ _ _ _ h.sv]
  · show s.vol - volOf os id = totalVol (os.set id e') (SMap.erase (pk, st) s.orders)
    rw [totalVol_set_of_not_mem e' hni, htot, Nat.add_sub_cancel_left]
  · -- level volume, level count and side total all contain this order
    simp only [h.nofault, Bool.false_or, decide_eq_false_iff_not, not_or, Nat.not_lt]
    exact ⟨Nat.le_add_left _ _, Nat.le_add_left _ _, htot ▸ Nat.le_add_right _ _⟩

/-- **`remove_vol`.** Reducing the volume of a queued order in place (partial fill, or a pure
volume reduction) keeps the invariant — the queue itself is untouched — and never faults. -/
theorem SideInv.reduce {os : List Entry} {sd : Side} {s : SideS} {stamp : Nat} (h : SideInv os sd s stamp)
    (pk st id red : Nat) (e e' : Entry) (hm : ((pk, st), id) ∈ s.orders) (he : os[id]? = some e)
    (hred : red < e.order.vol)
    (he' : e'.order.status = .active ∧ e'.order.side = e.order.side ∧ e'.key = e.key ∧
           e'.order.price = e.order.price ∧ e'.order.vol = e.order.vol - red) :
    SideInv (os.set id e') sd (s.removeVol pk red) stamp := by
  have hid : id < os.length := (List.getElem?_eq_some_iff.mp he).1
  obtain ⟨hperm, hvolumes⟩ := h.level_of_mem hm
  have hni := h.not_mem_erase hm
  have hvold := volOf_of_get he
  have hvnew : volOf (os.set id e') id = e.order.vol - red := by rw [volOf_set_self os id e' hid, he'.2.2.2.2]
  -- the aggregates after: this order's share shrinks by `red`, the rest of the queue is untouched
  have haggnew : ∀ pk', aggAt (os.set id e') s.orders pk' =
      if pk = pk' then ((aggAt os (SMap.erase (pk, st) s.orders) pk').1 + (e.order.vol - red),
                        (aggAt os (SMap.erase (pk, st) s.orders) pk').2 + 1)
      else aggAt os (SMap.erase (pk, st) s.orders) pk' := fun pk' => by
    rw [aggAt_split _ hperm, hvnew, aggAt_set_of_not_mem e' hni]
  have htot : s.vol = e.order.vol + totalVol os (SMap.erase (pk, st) s.orders) := by
    rw [h.tot, totalVol_split os hperm, hvold]
  rw [hvold] at hvolumes
  simp only [SideS.removeVol, hvolumes]
  have hle : red ≤ e.order.vol := Nat.le_of_lt hred
  refine ⟨h.so, SMap.sorted_insert _ _ _ h.sv, ?_, ?_, ?_, Nat.lt_of_le_of_lt (Nat.sub_le _ _) h.bnd, ?_⟩
  · intro k j hkj
    by_cases hj : id = j
    · subst hj
      have hq := h.queued hkj he
      exact ⟨e', List.getElem?_set_self hid, he'.1, he'.2.1.trans hq.side,
        he'.2.2.1.trans hq.key, he'.2.2.2.1 ▸ hq.pk, he'.2.2.2.2 ▸ Nat.sub_pos_of_lt hred, hq.st_lt,
        he'.2.2.2.1 ▸ hq.price_le⟩
    · obtain ⟨e0, he0, hq0⟩ := h.ent k j hkj
      exact ⟨e0, (List.getElem?_set_ne hj).trans he0, hq0⟩
  · refine level_update pk h.agg (fun pk' hne => ?_) (fun pk' => ?_)
    · rw [haggnew, aggAt_split os hperm, if_neg (Ne.symm hne), if_neg (Ne.symm hne)]
    · rw [SMap.find?_insert _ _ _ _ h.sv, haggnew pk, if_pos rfl, if_neg (Nat.succ_ne_zero _)]
      rw [Nat.add_sub_assoc hle]
  · show s.vol - red = totalVol (os.set id e') s.orders
    rw [totalVol_split _ hperm, hvnew, totalVol_set_of_not_mem e' hni, htot, Nat.sub_add_comm hle]
  · -- neither the level's volume nor the side's total is below `red`: both contain this order's volume
    simp only [h.nofault, Bool.false_or, decide_eq_false_iff_not, not_or, Nat.not_lt]
    exact ⟨Nat.le_trans hle (Nat.le_add_left _ _), htot ▸ Nat.le_trans hle (Nat.le_add_right _ _)⟩

/-- **A side under the invariant is determined by its queue**: level map, total and fault flag are
functions of the queue and the table. -/
theorem SideInv.ext {os : List Entry} {sd : Side} {s s' : SideS} {stamp stamp' : Nat} (h : SideInv os sd s stamp)
    (h' : SideInv os sd s' stamp') (ho : s.orders = s'.orders) : s = s' := by
  have hv : s.volumes = s'.volumes :=
    SMap.sorted_ext h.sv h'.sv (fun pk => by rw [h.agg pk, h'.agg pk, ho])
  have hvol : s.vol = s'.vol := by rw [h.tot, h'.tot, ho]
  have hf : s.fault = s'.fault := h.nofault.trans h'.nofault.symm
  cases s; cases s'
  simp only at ho hv hvol hf
  rw [ho, hv, hvol, hf]

/-- Each queued order has volume ≥ 1, so the order count at a price key is at most its volume. -/
theorem SideInv.count_le_vol {os : List Entry} {sd : Side} {s : SideS} {stamp : Nat} (h : SideInv os sd s stamp) (pk : Nat) :
    (aggAt os s.orders pk).2 ≤ (aggAt os s.orders pk).1 := by
  refine length_le_sum_map _ _ fun x hx => ?_
  obtain ⟨e, he, hq⟩ := h.row (k := x.1) (id := x.2) (List.mem_filter.mp hx).1
  rw [volOf_of_get he]
  exact hq.vol_pos

theorem SideInv.insert_nofault {os : List Entry} {sd : Side} {s : SideS} {stamp : Nat} (h : SideInv os sd s stamp)
    (pk st id vol : Nat) (hv : 0 < vol) (hb : s.vol + vol < P32) : (s.insertOrder pk st id vol).fault = false := by
  have hagg := h.agg pk
  have hle := aggAt_le_total os s.orders pk
  have hcnt := h.count_le_vol pk
  rw [← h.tot] at hle
  simp only [SideS.insertOrder]
  cases hf : SMap.find? pk s.volumes with
  | none =>
    -- a new level: only the side total can overflow
    simp only [h.nofault, Bool.false_or, Bool.or_false, decide_eq_false_iff_not, Nat.not_le]
    exact hb
  | some x =>
    obtain ⟨v, n⟩ := x
    rw [hf] at hagg
    split at hagg
    · cases hagg
    · injection hagg with hagg
      rw [← hagg] at hle hcnt
      simp only at hle hcnt
      -- level volume ≤ side total and level count ≤ level volume, so all three fit with the total
      simp only [h.nofault, Bool.false_or, Bool.or_eq_false_iff, decide_eq_false_iff_not, not_or, Nat.not_le]
      omega

theorem insertOrder_vol (s : SideS) (pk st id vol : Nat) : (s.insertOrder pk st id vol).vol = s.vol + vol := rfl

end Bourse

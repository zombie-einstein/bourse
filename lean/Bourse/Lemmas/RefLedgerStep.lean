/-
The ledger of every operation of the reference engine: new trade records are well formed against
the table after the operation, and every order lost exactly the volume of the new trades it took
part in (C03).
-/
import Bourse.Lemmas.RefLedger

namespace Bourse

/-- A new trade record, read against the order table after the operation that produced it. -/
structure TradeFinal (t : Nat) (os' : List Order) (tr : Trade) : Prop where
  time : tr.t = t
  pos : 0 < tr.vol
  ne : tr.active ≠ tr.passive
  agg : ∃ a, os'[tr.active]? = some a ∧ a.id = tr.active ∧ a.side = tr.side.opp ∧
          Ref.admits a.side a.price tr.price = true
  pas : ∃ p, os'[tr.passive]? = some p ∧ p.id = tr.passive ∧ p.side = tr.side ∧ p.price = tr.price

/-- The ledger statement of one operation taking `s` to `s'`; `vreq id o` is the volume order `id`
is explicitly given by the operation (its own volume unless the operation is an accepted volume
modification of that order). -/
def StepLedger (s s' : Ref.RState) (vreq : Nat → Order → Nat) : Prop :=
  ∃ new, s'.trades = s.trades ++ new ∧ (∀ tr ∈ new, TradeFinal s.t s'.orders tr) ∧
    (∀ (id : Nat) (o : Order), s.orders[id]? = some o →
      ∃ o', s'.orders[id]? = some o' ∧ o'.vol + tradedOf id new = vreq id o ∧
        o'.id = o.id ∧ o'.side = o.side ∧ o'.trader = o.trader ∧ o'.svol = o.svol) ∧
    -- an order that did not exist before the operation starts from its starting volume
    (∀ (id : Nat) (o' : Order), s.orders[id]? = none → s'.orders[id]? = some o' → o'.vol + tradedOf id new = o'.svol)

theorem StepLedger.set {s s' : Ref.RState} {id0 : Nat} {o0 x : Order} {vreq : Nat → Order → Nat}
    (h0 : s.orders[id0]? = some o0) (ho : s'.orders = s.orders.set id0 x) (ht : s'.trades = s.trades)
    (hx : x.vol = vreq id0 o0 ∧ x.id = o0.id ∧ x.side = o0.side ∧ x.trader = o0.trader ∧ x.svol = o0.svol)
    (hv : ∀ id o, id ≠ id0 → vreq id o = o.vol) : StepLedger s s' vreq := by
  refine ⟨[], by simp [ht], by simp, fun id o h => ?_, fun id o' hn hs => ?_⟩
  · rw [ho, getElem?_set_of_some h0]
    split
    · subst_vars; rw [h0] at h; cases h
      exact ⟨x, rfl, by simpa [tradedOf_nil] using hx.1, hx.2⟩
    · exact ⟨o, h, by simp [tradedOf_nil, hv id o ‹_›], rfl, rfl, rfl, rfl⟩
  · rw [ho, getElem?_set_none _ _ _ _ hn] at hs; cases hs

/-- An arrival of `id` with the record `agg` (of the stored record's identity), the result written
back: the ledger statement with `agg.vol` as the volume given to `id`. -/
theorem StepLedger.arrive {s0 : Ref.RState} {id : Nat} {o agg : Order} (a : Arrival s0 id o) (market : Bool)
    (hagg : agg.id = o.id ∧ agg.side = o.side ∧ agg.trader = o.trader ∧ agg.svol = o.svol)
    {vreq : Nat → Order → Nat} (hself : vreq id o = agg.vol) (hother : ∀ id' o', id' ≠ id → vreq id' o' = o'.vol) :
    StepLedger s0 (Ref.enterAt s0 id agg market) vreq := by
  obtain ⟨hw, ho, hout⟩ := a
  obtain ⟨hid, hside, htr, hsv⟩ := hagg
  have hid : agg.id = id := hid.trans (hw.ids id o ho)
  obtain ⟨new, g1, g2, g3, g4, g5, _⟩ := enter_ledger s0 hw agg market (by rw [hid]; exact hout _)
  have hget := Ref.enterAt_get (List.getElem?_eq_some_iff.mp ho).1 agg market
  refine ⟨new, g1, fun tr htr' => ?_, fun id' o' ho' => ?_, fun id' o' hn hs => ?_⟩
  · have hk := g2 tr htr'
    have hne : tr.active ≠ tr.passive := by
      rw [hk.act, hid]; intro h; exact hout _ (h ▸ hk.pas)
    refine ⟨hk.time, hk.pos, hne, ?_, ?_⟩
    · refine ⟨(Ref.enter s0 agg market).2, by rw [hget, if_pos (hk.act.trans hid)], by rw [g4.id, hk.act], ?_, ?_⟩
      · rw [g4.side, hk.side, Book.opp_opp]
      · rw [g4.side, g4.price]; exact hk.adm
    · obtain ⟨p, hp, hpp, hps⟩ := hk.entry
      have hpne : tr.passive ≠ agg.id := by rw [← hk.act]; exact Ne.symm hne
      obtain ⟨p', hp', _, hi⟩ := g5 tr.passive p hp hpne
      exact ⟨p', by rw [hget, if_neg (hid ▸ hpne), hp'], by rw [hi.id]; exact hw.ids _ p hp, by rw [hi.side]; exact hps,
        by rw [hi.price]; exact hpp⟩
  · rw [hget]
    split
    · rename_i hii
      subst hii
      rw [ho] at ho'; cases ho'
      refine ⟨_, rfl, by rw [hself, ← hid]; exact g3, ?_, g4.side.trans hside, g4.trader.trans htr, g4.svol.trans hsv⟩
      rw [g4.id, hid]; exact (hw.ids _ o ho).symm
    · rename_i hii
      obtain ⟨o'', ho'', hvv, hi⟩ := g5 id' o' ho' (by rw [hid]; exact hii)
      exact ⟨o'', ho'', by rw [hother id' o' hii]; exact hvv, hi.id, hi.side, hi.trader, hi.svol⟩
  · rw [Ref.enterAt_none hn] at hs; cases hs

theorem StepLedger.after_append {s s2 : Ref.RState} {x : Order} (hx : x.vol = x.svol)
    (h : StepLedger { s with orders := s.orders ++ [x] } s2 (fun _ o => o.vol)) : StepLedger s s2 (fun _ o => o.vol) := by
  obtain ⟨new, e, w, c, f⟩ := h
  refine ⟨new, e, w, fun id o ho => c id o (getElem?_append_some ho x), fun id o2 hn hs => ?_⟩
  cases h1 : (s.orders ++ [x])[id]? with
  | none => exact f id o2 h1 hs
  | some o1 =>
    rcases getElem?_append_one h1 with h | ⟨_, _, rfl⟩
    · rw [hn] at h; cases h
    · obtain ⟨o2', ho2', hv2, _, _, _, hsv⟩ := c id o1 h1
      rw [hs] at ho2'; cases ho2'
      rw [hsv, ← hx]; exact hv2

theorem StepLedger.append {s : Ref.RState} (x : Order) (hx : x.vol = x.svol) :
    StepLedger s { s with orders := s.orders ++ [x] } (fun _ o => o.vol) := by
  refine ⟨[], by simp, by simp, fun id o ho => ?_, fun id o' hn hs => ?_⟩
  · exact ⟨o, getElem?_append_some ho x, by simp [tradedOf_nil], rfl, rfl, rfl, rfl⟩
  · rcases getElem?_append_one hs with h | ⟨_, _, rfl⟩
    · rw [hn] at h; cases h
    · simp [tradedOf_nil, hx]

theorem Ref.StepCase.ledger {s s' : Ref.RState} {op : Op} (hc : Ref.StepCase s op s') (hw : QWf s) :
    StepLedger s s' (volRequested s.tick op) := by
  cases hc with
  | quiet ho ht _ _ _ _ _ hvol =>
    exact ⟨[], by simp [ht], by simp, fun id o h => ⟨o, ho ▸ h, by rw [tradedOf_nil, hvol id o h]; rfl, rfl, rfl, rfl, rfl⟩,
      fun id o' h1 h2 => by rw [ho, h1] at h2; cases h2⟩
  | create sd vol tr p => exact StepLedger.append _ rfl
  | cancel id0 o0 h0 ha hop =>
    refine StepLedger.set (x := { o0 with status := .cancelled, endt := s.t }) h0 rfl (Ref.unqueue_trades ..)
      ⟨?_, rfl, rfl, rfl, rfl⟩ fun id o _ => ?_ <;> rcases hop with rfl | rfl <;> rfl
  | reduce id0 o0 v h0 ha hv hop =>
    refine StepLedger.set (x := { o0 with vol := v }) h0 rfl rfl ⟨?_, rfl, rfl, rfl, rfl⟩ fun id o hne => ?_
    · rcases hop with rfl | rfl <;> simp [volRequested, modifyVol, ha, Book.offGrid]
    · rcases hop with rfl | rfl <;> simp [volRequested, modifyVol, hne]
  | place id0 o0 h0 hn hop =>
    refine StepLedger.arrive (agg := { o0 with status := .active, arr := s.t }) (hw.arrive_place h0 hn) _
      ⟨rfl, rfl, rfl, rfl⟩ ?_ fun id' o' _ => ?_ <;> rcases hop with rfl | rfl <;> rfl
  | cap sd vol tr p hg =>
    exact StepLedger.after_append (x := Ref.newOrder s sd vol tr p) rfl
      (StepLedger.arrive (agg := { Ref.newOrder s sd vol tr p with status := .active, arr := s.t })
        (hw.arrive_cap sd vol tr p) _ ⟨rfl, rfl, rfl, rfl⟩ rfl fun _ _ _ => rfl)
  | reenter id0 o0 np nv h0 ha hg hop =>
    have hvr : ∀ id' o', volRequested s.tick op id' o' = modifyVol s.tick id0 np nv id' o' := fun _ _ => by
      rcases hop with rfl | rfl <;> rfl
    obtain ⟨new, e1, e2, e3, e4⟩ := StepLedger.arrive (agg := { o0 with vol := nv.getD o0.vol, price := np.getD o0.price })
      (hw.arrive_reenter h0) false ⟨rfl, rfl, rfl, rfl⟩ (vreq := volRequested s.tick op)
      (by rw [hvr]; simp [modifyVol, ha, hg]) (fun id' o' hne => by rw [hvr]; simp [modifyVol, hne])
    simp only [Ref.unqueue_orders, Ref.unqueue_trades, Ref.unqueue_t] at e1 e2 e3 e4
    exact ⟨new, e1, e2, e3, e4⟩

theorem ref_step_ledger (s : Ref.RState) (hw : QWf s) (op : Op) :
    StepLedger s (Ref.step s op).1 (volRequested s.tick op) :=
  (Ref.step_case s op).ledger hw

/-- An operation that does not explicitly set an order's volume. -/
def NoVolModify : Op → Prop
  | .modify _ _ (some _) => False
  | .ev (.modify _ _ (some _)) => False
  | _ => True

theorem volRequested_plain (tick : Nat) (op : Op) (h : NoVolModify op) (id : Nat) (o : Order) :
    volRequested tick op id o = o.vol := by
  have none : ∀ id' np, modifyVol tick id' np none id o = o.vol := fun _ _ => by unfold modifyVol; split <;> rfl
  cases op with
  | modify id' np nv =>
    cases nv with
    | none => exact none ..
    | some v => exact h.elim
  | ev e =>
    cases e with
    | modify id' np nv =>
      cases nv with
      | none => exact none ..
      | some v => exact h.elim
    | _ => rfl
  | _ => rfl

/-- Ledger invariant of a state: every logged trade names two existing orders, and (for histories
without explicit volume modifications) every order's remaining volume plus the volume of its logged
trades is its starting volume. -/
structure LedgerInv (s : Ref.RState) : Prop where
  refs : ∀ tr ∈ s.trades, tr.active < s.orders.length ∧ tr.passive < s.orders.length
  cons : ∀ (id : Nat) (o : Order), s.orders[id]? = some o → o.vol + tradedOf id s.trades = o.svol

theorem tradedOf_zero_of_fresh (id : Nat) (ts : List Trade)
    (h : ∀ tr ∈ ts, tr.active ≠ id ∧ tr.passive ≠ id) : tradedOf id ts = 0 := by
  induction ts with
  | nil => rfl
  | cons tr ts ih =>
    rw [tradedOf_cons, ih (fun x hx => h x (List.mem_cons_of_mem _ hx))]
    have := h tr List.mem_cons_self
    simp [this.1, this.2]

theorem LedgerInv.step {s s' : Ref.RState} (hl : LedgerInv s) (h : StepLedger s s' (fun _ o => o.vol)) : LedgerInv s' := by
  obtain ⟨new, e, w, c, f⟩ := h
  have hlen : ∀ i, i < s.orders.length → i < s'.orders.length := by
    intro i hi
    obtain ⟨o', ho', _⟩ := c i s.orders[i] (List.getElem?_eq_getElem hi)
    exact (List.getElem?_eq_some_iff.mp ho').1
  refine ⟨?_, ?_⟩
  · intro tr htr
    rw [e] at htr
    rcases List.mem_append.mp htr with h1 | h1
    · exact ⟨hlen _ (hl.refs tr h1).1, hlen _ (hl.refs tr h1).2⟩
    · obtain ⟨a, ha, _⟩ := (w tr h1).agg
      obtain ⟨p, hp, _⟩ := (w tr h1).pas
      exact ⟨(List.getElem?_eq_some_iff.mp ha).1, (List.getElem?_eq_some_iff.mp hp).1⟩
  · intro id o' ho'
    rw [e, tradedOf_append]
    cases hs : s.orders[id]? with
    | some o =>
      obtain ⟨o'', ho'', hv, _, _, _, hsv⟩ := c id o hs
      rw [ho'] at ho''; injection ho'' with ho''; subst ho''
      have := hl.cons id o hs
      simp only at hv
      rw [hsv]; omega
    | none =>
      -- no logged trade names an id beyond the table
      have hge : s.orders.length ≤ id := List.getElem?_eq_none_iff.mp hs
      have hfresh := tradedOf_zero_of_fresh id s.trades fun tr htr => by have := hl.refs tr htr; omega
      have := f id o' hs ho'
      omega

end Bourse

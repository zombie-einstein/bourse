/-
Every RESTING order's price is a multiple of the tick size, in every reachable state.

`Lemmas/Grid` shows that every order in the table is a market order (sentinel price) or has a grid
price. A market order never rests, but that is a fact about statuses, so it is proved here on the
reference engine (whose status handling is explicit) and transferred through the refinement
(`resting_on_grid` in `RefTransfer`):
  * a created order is New with a grid price or a sentinel price;
  * placing a sentinel-priced order takes the market path, which ends Filled, Cancelled or Rejected;
  * matching changes no price and no side, and a status only to Filled;
  * a modification is ignored unless its new price is on the grid.
-/
import Bourse.Lemmas.RefStepCases

namespace Bourse
namespace Ref

/-- What the grid demands of one record: a resting order has a grid price; an order not yet placed
has a grid price or the market sentinel of its side. -/
def GClause (tick : Nat) (o : Order) : Prop :=
  (o.status = .active → o.price % tick = 0) ∧ (o.status = .new → Book.isMarket o = true ∨ o.price % tick = 0)

theorem GClause.of_status {tick : Nat} {o : Order} (h1 : o.status ≠ .active) (h2 : o.status ≠ .new) : GClause tick o :=
  ⟨fun h => absurd h h1, fun h => absurd h h2⟩

theorem GClause.of_filled {tick t : Nat} {o o' : Order} (h : GClause tick o) (hf : Filled t o o') : GClause tick o' := by
  rcases hf.status with hst | hst
  · refine ⟨fun ha => ?_, fun hn => ?_⟩
    · rw [hf.1.price]; exact h.1 (hst ▸ ha)
    · simpa only [Book.isMarket, hf.1.price, hf.1.side] using h.2 (hst ▸ hn)
  · exact GClause.of_status (by rw [hst]; simp) (by rw [hst]; simp)

def RG (s : RState) : Prop := ∀ o ∈ s.orders, GClause s.tick o

theorem rg_of_rel {tick t : Nat} {os os' : List Order}
    (h : ∀ o ∈ os, GClause tick o)
    (hrel : ∀ (id : Nat) (o : Order), os[id]? = some o → ∃ o', os'[id]? = some o' ∧ Filled t o o')
    (hlen : os'.length = os.length) : ∀ o' ∈ os', GClause tick o' := by
  intro o' ho'
  obtain ⟨i, hi, rfl⟩ := List.getElem_of_mem ho'
  have hi' : i < os.length := hlen ▸ hi
  obtain ⟨o1, ho1, hf⟩ := hrel i os[i] (List.getElem?_eq_getElem hi')
  rw [List.getElem?_eq_getElem hi] at ho1
  cases ho1
  exact (h _ (List.getElem_mem hi')).of_filled hf

/-- An arriving order (marked Active; a limit order arrives with a grid price): afterwards every
record satisfies the clause, and so does the arriving order's own record. -/
theorem enter_rg {s : RState} (h : RG s) (agg : Order) (market : Bool) (ha : agg.status = .active)
    (hg : market = false → agg.price % s.tick = 0) :
    RG (enter s agg market).1 ∧ GClause s.tick (enter s agg market).2 ∧ (enter s agg market).1.tick = s.tick := by
  obtain ⟨h1, m2, _, h4⟩ := matchPhase_rel (filled_fillRel s.t) agg
  refine ⟨fun o ho => ?_, ?_, enter_tick ..⟩
  · rw [(enter_orders s agg market).1] at ho
    rw [enter_tick]
    exact rg_of_rel h h1 h4 o ho
  · rcases enter_snd s agg market with ⟨he, hm⟩ | ⟨_, st, hst, he⟩
    · -- the match phase's record: Filled, or a limit order still Active at its grid price
      rw [he]
      rcases m2.status with hs | hs
      · rcases hm with hm | hf
        · exact ⟨fun _ => by rw [m2.1.price]; exact hg hm, fun hn => by rw [hs, ha] at hn; cases hn⟩
        · exact GClause.of_status (by rw [hf]; simp) (by rw [hf]; simp)
      · exact GClause.of_status (by rw [hs]; simp) (by rw [hs]; simp)
    · rw [he]
      rcases hst with rfl | rfl <;> exact GClause.of_status (by simp) (by simp)

theorem rg_set {os : List Order} {tick : Nat} (h : ∀ o ∈ os, GClause tick o) (id : Nat) (o' : Order)
    (ho' : GClause tick o') : ∀ o ∈ os.set id o', GClause tick o := by
  intro o ho
  rcases List.mem_or_eq_of_mem_set ho with ho | ho
  · exact h o ho
  · rw [ho]; exact ho'

theorem enterAt_rg {s : RState} (h : RG s) (id : Nat) {agg : Order} (market : Bool) (ha : agg.status = .active)
    (hg : market = false → agg.price % s.tick = 0) :
    RG (enterAt s id agg market) ∧ (enterAt s id agg market).tick = s.tick := by
  obtain ⟨e1, e2, e3⟩ := enter_rg h agg market ha hg
  refine ⟨fun x hx => ?_, e3⟩
  show GClause (enter s agg market).1.tick x
  rw [e3]
  exact rg_set (fun y hy => e3 ▸ e1 y hy) id _ e2 x hx

theorem rg_append {s : RState} (h : RG s) {o : Order} (ho : GClause s.tick o) :
    RG { s with orders := s.orders ++ [o] } := by
  intro x hx
  rcases List.mem_append.mp hx with hx | hx
  · exact h x hx
  · rw [List.mem_singleton.mp hx]; exact ho

theorem gclause_mkOrder {tick t : Nat} (sd : Side) (vol tr : Nat) {p : Option Nat} (id : Nat)
    (hg : Book.offGrid tick p = false) : GClause tick (Book.mkOrder t sd vol tr p id) := by
  refine ⟨fun y => by simp [Book.mkOrder] at y, fun _ => ?_⟩
  cases p with
  | none => exact Or.inl (by cases sd <;> simp [Book.mkOrder, Book.isMarket])
  | some q => exact Or.inr (by simpa [Book.offGrid, Book.mkOrder] using hg)

theorem GClause.limit_grid {tick : Nat} {o : Order} (h : GClause tick o) (hn : o.status = .new)
    (hm : Book.isMarket o = false) : o.price % tick = 0 := by
  rcases h.2 hn with hx | hx
  · rw [hm] at hx; cases hx
  · exact hx

theorem StepCase.rg {s s' : RState} {op : Op} (hc : StepCase s op s') (h : RG s) : RG s' ∧ s'.tick = s.tick := by
  cases hc with
  | quiet ho _ _ _ htk => exact ⟨fun o hm => by rw [htk]; exact h o (ho ▸ hm), htk⟩
  | create sd vol tr p hg => exact ⟨rg_append h (gclause_mkOrder sd vol tr _ hg), rfl⟩
  | cancel id o ho ha =>
    refine ⟨fun x hx => ?_, unqueue_tick ..⟩
    show GClause (unqueue s o.side id).tick x
    rw [unqueue_tick]
    exact rg_set h id { o with status := .cancelled, endt := s.t } (GClause.of_status (by simp) (by simp)) x hx
  | reduce id o v ho ha =>
    have hcl := h o (List.mem_of_getElem? ho)
    exact ⟨rg_set h id _ ⟨fun _ => hcl.1 ha, fun y => absurd (ha.symm.trans y) (by simp)⟩, rfl⟩
  | place id o ho hn =>
    exact enterAt_rg h id _ rfl ((h o (List.mem_of_getElem? ho)).limit_grid hn)
  | cap sd vol tr p hg =>
    exact enterAt_rg (rg_append h (gclause_mkOrder sd vol tr _ hg)) _ _ rfl
      ((gclause_mkOrder (tick := s.tick) sd vol tr _ hg).limit_grid rfl)
  | reenter id o np nv ho ha hg =>
    have hs0 : RG (unqueue s o.side id) := fun x hx => by
      rw [unqueue_tick]; exact h x (by simpa using hx)
    have hgrid : (np.getD o.price) % (unqueue s o.side id).tick = 0 := by
      rw [unqueue_tick]
      cases np with
      | none => exact (h o (List.mem_of_getElem? ho)).1 ha
      | some q => simpa [Book.offGrid] using hg
    obtain ⟨e1, e2⟩ := enterAt_rg hs0 id (agg := { o with vol := nv.getD o.vol, price := np.getD o.price }) false ha
      fun _ => hgrid
    exact ⟨e1, e2.trans (unqueue_tick ..)⟩

theorem step_rg {s : RState} (h : RG s) (op : Op) : RG (step s op).1 ∧ (step s op).1.tick = s.tick :=
  (step_case s op).rg h

theorem place_rg {s : RState} (h : RG s) (id : Nat) : RG (place s id) ∧ (place s id).tick = s.tick :=
  step_rg h (.place id)

theorem cancel_rg {s : RState} (h : RG s) (id : Nat) : RG (cancel s id) ∧ (cancel s id).tick = s.tick :=
  step_rg h (.cancel id)

theorem modify_rg {s : RState} (h : RG s) (id : Nat) (np nv : Option Nat) :
    RG (modify s id np nv) ∧ (modify s id np nv).tick = s.tick :=
  step_rg h (.modify id np nv)

theorem create_rg {s : RState} (h : RG s) (sd : Side) (vol tr : Nat) (p : Option Nat) :
    RG (create s sd vol tr p).1 ∧ (create s sd vol tr p).1.tick = s.tick :=
  step_rg h (.create sd vol tr p)

theorem run_rg {s : RState} (h : RG s) (ops : List Op) : RG (run s ops) ∧ (run s ops).tick = s.tick := by
  induction ops generalizing s with
  | nil => exact ⟨h, rfl⟩
  | cons op rest ih =>
    simp only [run, List.foldl_cons]
    obtain ⟨h1, h2⟩ := step_rg h op
    obtain ⟨i1, i2⟩ := ih h1
    exact ⟨i1, i2.trans h2⟩

theorem rg_init (t0 tick : Nat) (trading : Bool) : RG (init t0 tick trading) := by
  intro o ho; simp [init] at ho

end Ref

end Bourse

/-
C02, last clause: as long as trading has never been disabled, the book is never crossed.
Proved on the reference engine (the queues are id lists); transferred through the refinement in
`RefTransfer`. That each queue is sorted by price (`RSorted`) is a hypothesis of `StepCase.uncrossed`
and is not shown here to be kept by `Ref.step`: it is supplied for every `abs b` by `rsorted_abs`.
-/
import Bourse.Lemmas.RefArrival
import Bourse.Lemmas.ValidOp

namespace Bourse

/-- No resting order of one side is admitted by the limit of a resting order of the other side
(for `sd = bid`: every bid price is strictly below every ask price). -/
def RUncrossed (s : Ref.RState) : Prop :=
  ∀ (sd : Side) (i j : Nat), i ∈ s.queue sd → j ∈ s.queue sd.opp →
    Ref.admits sd (Ref.priceOf s.orders i) (Ref.priceOf s.orders j) = false

/-- Each queue is sorted by price (nearer the head = better or equal). -/
def RSorted (s : Ref.RState) : Prop :=
  ∀ sd, (s.queue sd).Pairwise (fun i j => Ref.ahead sd (Ref.priceOf s.orders i) (Ref.priceOf s.orders j) = true)

theorem mem_enqueue (os : List Order) (sd : Side) (q : List Nat) (id p j : Nat) :
    j ∈ Ref.enqueue os sd q id p ↔ j = id ∨ j ∈ q := by
  conv => rhs; rw [← List.takeWhile_append_dropWhile (p := fun j => Ref.ahead sd (Ref.priceOf os j) p) (l := q)]
  simp only [Ref.enqueue, List.mem_append, List.mem_cons]
  exact ⟨fun h => h.elim (fun h => .inr (.inl h)) (fun h => h.elim .inl (fun h => .inr (.inr h))),
    fun h => h.elim (fun h => .inr (.inl h)) (fun h => h.elim .inl (fun h => .inr (.inr h)))⟩

/-- `Ref.matchQ_stops` read against the state the loop STARTED from (matching changes no price and
no side): the aggressor is exhausted, or the queue is, or the head of what is left was not admitted
by the limit the aggressor arrived with. -/
theorem matchQ_stops (t : Nat) (q : List Nat) (st : Ref.MatchSt)
    (hq : ∀ j ∈ q, ∃ o, st.orders[j]? = some o) (hnd : q.Nodup) :
    (Ref.matchQ t q st).2.agg.vol = 0 ∨ (Ref.matchQ t q st).1 = [] ∨
      ∃ j rest o, (Ref.matchQ t q st).1 = j :: rest ∧ st.orders[j]? = some o ∧
        Ref.admits st.agg.side st.agg.price o.price = false := by
  obtain ⟨hrec, hagg, _⟩ := Ref.matchQ_rel (Ref.filled_fillRel t) q st
  obtain ⟨pre, hpre⟩ := Ref.matchQ_suffix t q st
  rcases Ref.matchQ_stops t q st (fun j hj => let ⟨_, ho⟩ := hq j hj; (List.getElem?_eq_some_iff.mp ho).1)
    with h | h | ⟨j, hj, hadm⟩
  · exact Or.inl h
  · exact Or.inr (Or.inl h)
  · obtain ⟨rest, hr⟩ := List.head?_eq_some_iff.mp hj
    obtain ⟨o, ho⟩ := hq j (by rw [hpre, hr]; simp)
    obtain ⟨o', ho', hf⟩ := hrec j o ho
    rw [hagg.1.side, hagg.1.price] at hadm
    rw [priceOf_of_get ho', hf.1.price] at hadm
    exact Or.inr (Or.inr ⟨j, rest, o, hr, ho, hadm⟩)

theorem admits_symm (sd : Side) (p q : Nat) : Ref.admits sd p q = Ref.admits sd.opp q p := by
  cases sd <;> rfl

/-- It suffices to look from one side. -/
theorem uncrossed_of_side (s : Ref.RState) (sd0 : Side)
    (h : ∀ i j, i ∈ s.queue sd0 → j ∈ s.queue sd0.opp →
      Ref.admits sd0 (Ref.priceOf s.orders i) (Ref.priceOf s.orders j) = false) : RUncrossed s := by
  intro sd i j hi hj
  by_cases hs : sd = sd0
  · subst hs; exact h i j hi hj
  · have : sd = sd0.opp := Book.eq_opp_of_ne hs
    subst this
    rw [admits_symm, Book.opp_opp]
    rw [Book.opp_opp] at hj
    exact h j i hj hi

/-- An aggressor that leaves the loop unfilled has traded away everything its limit admits: nothing
left in the (price-sorted) queue is admitted. -/
theorem matchQ_shields (t : Nat) (q : List Nat) (st : Ref.MatchSt) (hq : ∀ j ∈ q, ∃ o, st.orders[j]? = some o)
    (hnd : q.Nodup)
    (hs : q.Pairwise fun i j => Ref.ahead st.agg.side.opp (Ref.priceOf st.orders i) (Ref.priceOf st.orders j) = true)
    (hv : 0 < st.agg.vol) (hnf : (Ref.matchQ t q st).2.agg.status ≠ .filled) :
    ∀ j ∈ (Ref.matchQ t q st).1, Ref.admits st.agg.side st.agg.price (Ref.priceOf st.orders j) = false := by
  intro j hj
  obtain ⟨pre, hpre⟩ := Ref.matchQ_suffix t q st
  rcases matchQ_stops t q st hq hnd with h0 | h0 | ⟨j0, rest, o, h1, h2, h3⟩
  · exact absurd (by rw [((Ref.matchQ_agg t q st).2 hv).1, if_pos h0]) hnf
  · rw [h0] at hj; cases hj
  · rw [← priceOf_of_get h2] at h3
    rw [h1] at hj hpre
    rcases List.mem_cons.mp hj with rfl | hjr
    · exact h3
    · -- behind the head, and the queue is sorted
      rw [hpre] at hs
      exact Ref.not_admitted_behind _ _ _ _ h3 ((List.pairwise_cons.mp (List.pairwise_append.mp hs).2.1).1 j hjr)

/-- **Entering keeps the book uncrossed** (trading enabled): the entrant trades away everything its
limit admits before it may rest, so what rests is strictly outside the opposite side. -/
theorem enter_uncrossed (s : Ref.RState) (hw : QWf s) (hs : RSorted s) (hu : RUncrossed s) (ht : s.trading = true)
    (agg : Order) (market : Bool) (id : Nat) (hid : agg.id = id) (hout : ∀ sd, id ∉ s.queue sd) (hv : 0 < agg.vol)
    (hlt : id < s.orders.length) :
    RUncrossed { (Ref.enter s agg market).1 with
      orders := (Ref.enter s agg market).1.orders.set id (Ref.enter s agg market).2 } := by
  subst hid
  show RUncrossed (Ref.enterAt s agg.id agg market)
  have hshield := matchQ_shields s.t (s.queue agg.side.opp) ⟨s.orders, s.trades, s.tradeVol, agg⟩
    (fun j hj => (hw.qok _ j hj).imp fun o h => h.1) (hw.nd _) (hs _) hv
  obtain ⟨pre, hpre⟩ := Ref.matchQ_suffix s.t (s.queue agg.side.opp) ⟨s.orders, s.trades, s.tradeVol, agg⟩
  have hRid := (Ref.matchQ_rel (Ref.filled_fillRel s.t) (s.queue agg.side.opp) ⟨s.orders, s.trades, s.tradeVol, agg⟩).2.1.1.id
  obtain ⟨f1, f2⟩ := Ref.enter_queues (market := market) ht rfl
  refine uncrossed_of_side _ agg.side fun i j hi hj => ?_
  rw [Ref.enterAt_queue] at hi hj
  rw [f1] at hj
  have hj' : j ∈ s.queue agg.side.opp := hpre ▸ List.mem_append_right _ hj
  rw [Ref.enterAt_priceOf hlt agg market j, if_neg fun h => hout _ (h ▸ hj'), Ref.enterAt_priceOf hlt agg market i]
  have old : i ∈ s.queue agg.side →
      Ref.admits agg.side (if i = agg.id then agg.price else Ref.priceOf s.orders i) (Ref.priceOf s.orders j) = false :=
    fun hi' => by rw [if_neg fun h => hout _ (h ▸ hi')]; exact hu agg.side i j hi' hj'
  rw [f2] at hi
  split at hi
  · exact old hi
  · rename_i hnf
    rcases (mem_enqueue _ _ _ _ _ _).mp hi with hi' | hi'
    · -- the entrant itself rests: it was not filled
      rw [if_pos (hi'.trans hRid)]
      exact hshield (fun h => hnf (.inl h)) j hj
    · exact old hi'

/-- Uncrossedness only looks at queue membership and the prices of queued orders. -/
theorem uncrossed_congr {s s' : Ref.RState} (hu : RUncrossed s)
    (hq : ∀ sd j, j ∈ s'.queue sd → j ∈ s.queue sd)
    (hp : ∀ sd j, j ∈ s'.queue sd → Ref.priceOf s'.orders j = Ref.priceOf s.orders j) : RUncrossed s' := by
  intro sd i j hi hj
  rw [hp sd i hi, hp sd.opp j hj]
  exact hu sd i j (hq sd i hi) (hq sd.opp j hj)

theorem RSorted.of_sublist {s s' : Ref.RState} (hs : RSorted s) (hq : ∀ sd, (s'.queue sd).Sublist (s.queue sd))
    (hp : ∀ sd j, j ∈ s.queue sd → Ref.priceOf s'.orders j = Ref.priceOf s.orders j) : RSorted s' := fun sd =>
  ((hs sd).imp_of_mem fun {i j} hi hj h => by rw [hp sd i hi, hp sd j hj]; exact h).sublist (hq sd)

theorem enterAt_uncrossed {s0 : Ref.RState} {id : Nat} {o0 agg : Order} (a : Arrival s0 id o0) (hs : RSorted s0)
    (hu : RUncrossed s0) (ht : s0.trading = true) (market : Bool) (hid : agg.id = o0.id) (hv : 0 < agg.vol) :
    RUncrossed (Ref.enterAt s0 id agg market) ∧ (Ref.enterAt s0 id agg market).trading = true :=
  ⟨enter_uncrossed s0 a.wf hs hu ht agg market id (hid.trans (a.wf.ids id o0 a.get)) a.out hv a.lt,
    (Ref.enter_trading ..).trans ht⟩

/-- **Every shape of operation keeps the book uncrossed** while trading is enabled and is not being
disabled: an arrival by `enter_uncrossed`; everything else only removes ids from the queues and
keeps the prices of those that stay. -/
theorem Ref.StepCase.uncrossed {s s' : Ref.RState} {op : Op} (hc : Ref.StepCase s op s') (hw : QWf s)
    (hs : RSorted s) (hu : RUncrossed s) (ht : s.trading = true)
    (hpos : ∀ (id : Nat) (o : Order), s.orders[id]? = some o → o.status = .new ∨ o.status = .active → 0 < o.vol)
    (hv : ValidOp op) (hop : op ≠ .trading false) : RUncrossed s' ∧ s'.trading = true := by
  cases hc with
  | quiet ho _ hb ha _ _ htr =>
    have hq : ∀ sd, s'.queue sd = s.queue sd := fun sd => by cases sd <;> assumption
    refine ⟨uncrossed_congr hu (fun sd j hj => hq sd ▸ hj) (fun _ _ _ => by rw [ho]), ?_⟩
    rcases htr with h | h
    · exact h.trans ht
    · cases hon : s'.trading with
      | true => rfl
      | false => rw [hon] at h; exact absurd h hop
  | create sd vol tr p =>
    exact ⟨uncrossed_congr hu (fun _ _ hj => hj) (fun _ _ hj => priceOf_append (hw.valid hj) _), ht⟩
  | cancel id o ho ha =>
    refine ⟨uncrossed_congr hu (fun sd _ hj => (Ref.unqueue_sublist sd).subset hj) (fun _ j _ => ?_), (Ref.unqueue_trading ..).trans ht⟩
    exact priceOf_set_same ho (x := { o with status := .cancelled, endt := s.t }) rfl j
  | reduce id o v ho ha =>
    exact ⟨uncrossed_congr hu (fun _ _ hj => hj) (fun _ j _ => priceOf_set_same ho (x := { o with vol := v }) rfl j), ht⟩
  | place id o ho hn =>
    exact enterAt_uncrossed (hw.arrive_place ho hn) hs hu ht _ rfl (hpos id o ho (.inl hn))
  | cap sd vol tr p =>
    -- the state with the new record appended: nothing queued refers to it
    have hs0 : RSorted (Ref.created s sd vol tr p) :=
      hs.of_sublist (fun _ => List.Sublist.refl _) fun _ _ hj => priceOf_append (hw.valid hj) _
    have hu0 : RUncrossed (Ref.created s sd vol tr p) :=
      uncrossed_congr hu (fun _ _ hj => hj) (fun _ _ hj => priceOf_append (hw.valid hj) _)
    exact enterAt_uncrossed (hw.arrive_cap sd vol tr p) hs0 hu0 ht _ rfl hv.1
  | reenter id o np nv ho ha hg hop' =>
    have hs1 : RSorted (Ref.unqueue s o.side id) := hs.of_sublist Ref.unqueue_sublist fun _ _ _ => by simp
    have hu1 : RUncrossed (Ref.unqueue s o.side id) :=
      uncrossed_congr hu (fun sd _ hj => (Ref.unqueue_sublist sd).subset hj) (fun _ _ _ => by simp)
    have hvol : 0 < nv.getD o.vol := by
      cases nv with
      | none => exact hpos id o ho (.inr ha)
      | some v => rcases hop' with rfl | rfl <;> exact hv.1 v rfl
    exact enterAt_uncrossed (agg := { o with vol := nv.getD o.vol, price := np.getD o.price }) (hw.arrive_reenter ho) hs1 hu1
      ((Ref.unqueue_trading ..).trans ht) false rfl hvol

end Bourse

/-
The dispatch of `create_order`, `place_order`, `cancel_order` and `modify_order`, once: each operation
ends in one of a few shapes, decided by the table entry of the id and by the arguments. A proof about
the operation proves its claim of every shape (`*_shapes`, to be used with `refine` and a motive).
`step_shapes` does the same for `Book.step`: an event is its operation (`Event.toOp`), create-and-place
is create then place, and the operations on the book as a whole are set apart (`Op.Admin`).
-/
import Bourse.Lemmas.Frame
import Bourse.Lemmas.ListAux

namespace Bourse
namespace Book

/-- `create_order`: an off-grid price is refused and nothing changes; otherwise a New row is
appended and its index returned. -/
theorem createOrder_shapes {motive : Book × CreateResult → Prop} (b : Book) (sd : Side) (vol tr : Nat)
    (p : Option Nat)
    (refused : ∀ q, p = some q → (q % b.tick != 0) = true → motive (b, .priceError q b.tick))
    (created : offGrid b.tick p = false →
      motive ({ b with orders := b.orders ++
          [{ order := mkOrder b.t sd vol tr p b.orders.length,
             key := ⟨sd, priceKey sd (mkOrder b.t sd vol tr p b.orders.length).price, 0⟩ }] },
        .ok b.orders.length)) :
    motive (b.createOrder sd vol tr p) := by
  unfold createOrder
  split
  · rename_i q
    split
    · exact refused q rfl ‹_›
    · exact created (by simpa [offGrid] using ‹¬ (q % b.tick != 0) = true›)
  · exact created rfl

theorem createOrder_ok_lt {b : Book} {sd : Side} {vol tr : Nat} {p : Option Nat} {id : Nat}
    (h : (b.createOrder sd vol tr p).2 = .ok id) : id < (b.createOrder sd vol tr p).1.orders.length := by
  revert h
  refine createOrder_shapes (motive := fun r => r.2 = .ok id → id < r.1.orders.length) b sd vol tr p ?_ ?_
  · intro _ _ _ hc; cases hc
  · intro _ hid; cases hid; simp

/-- `place_order`: unknown id (a fault); not a New order (ignored); a market or a limit order enters. -/
theorem placeOrder_shapes {motive : Book → Prop} (b : Book) (id : Nat)
    (unknown : b.orders[id]? = none → motive { b with fault := true })
    (ignored : ∀ e, b.orders[id]? = some e → e.order.status ≠ .new → motive b)
    (market : ∀ e, b.orders[id]? = some e → e.order.status = .new → isMarket e.order = true →
      motive (writeBack (placeMarket e.order.side b (b.activate e)) id))
    (limit : ∀ e, b.orders[id]? = some e → e.order.status = .new → isMarket e.order = false →
      motive (writeBack (restUnlessFilled e.order.side (matchIfTrading e.order.side b (b.activate e)) e.key.pk) id)) :
    motive (b.placeOrder id) := by
  unfold placeOrder
  split
  · exact unknown ‹_›
  · rename_i e he
    split
    · exact ignored e he ‹_›
    · rename_i hn
      have hn : e.order.status = .new := Decidable.not_not.mp hn
      unfold placeEntry
      split
      · exact market e he hn ‹_›
      · exact limit e he hn (Bool.eq_false_iff.mpr ‹¬ isMarket (b.activate e).order = true›)

/-- The two live shapes as equations (`activate` changes neither side nor price, so the dispatch of the
activated entry is that of the entry). -/
theorem placeOrder_market {b : Book} {id : Nat} {e : Entry} (he : b.orders[id]? = some e)
    (hn : e.order.status = .new) (hm : isMarket e.order = true) :
    b.placeOrder id = writeBack (placeMarket e.order.side b (b.activate e)) id := by
  have hm' : isMarket (b.activate e).order = true := hm
  rw [placeOrder, he]
  simp only [hn, placeEntry, hm', ne_eq, not_true_eq_false, if_false, if_true]
  rfl

theorem placeOrder_limit {b : Book} {id : Nat} {e : Entry} (he : b.orders[id]? = some e)
    (hn : e.order.status = .new) (hm : isMarket e.order = false) :
    b.placeOrder id =
      writeBack (restUnlessFilled e.order.side (matchIfTrading e.order.side b (b.activate e)) e.key.pk) id := by
  have hm' : isMarket (b.activate e).order = false := hm
  rw [placeOrder, he]
  simp only [hn, placeEntry, hm', placeLimit, ne_eq, not_true_eq_false, if_false, Bool.false_eq_true]
  rfl

theorem placeMarket_on (sd : Side) (b : Book) (e : Entry) (h : b.trading = true) :
    placeMarket sd b e = cancelRemainder (matchSide sd b e) := by simp [placeMarket, h]

theorem placeMarket_off (sd : Side) (b : Book) (e : Entry) (h : b.trading = false) :
    placeMarket sd b e = (b, { e with order := { e.order with status := .rejected, endt := b.t } }) := by
  simp [placeMarket, h]

theorem cancelRemainder_cases (r : Book × Entry) :
    (r.2.order.status = .filled ∧ cancelRemainder r = r) ∨
    (r.2.order.status ≠ .filled ∧
      cancelRemainder r = (r.1, { r.2 with order := { r.2.order with status := .cancelled, endt := r.1.t } })) := by
  unfold cancelRemainder
  split
  · exact .inr ⟨‹_›, rfl⟩
  · exact .inl ⟨Decidable.not_not.mp ‹_›, rfl⟩

@[simp] theorem cancelRemainder_fst (r : Book × Entry) : (cancelRemainder r).1 = r.1 := by
  rcases cancelRemainder_cases r with ⟨-, h⟩ | ⟨-, h⟩ <;> rw [h]

/-- `cancel_order`: unknown id (a fault); not an Active order (ignored); an Active order leaves its
queue and its row is marked. -/
theorem cancelOrder_shapes {motive : Book → Prop} (b : Book) (id : Nat)
    (unknown : b.orders[id]? = none → motive { b with fault := true })
    (ignored : ∀ e, b.orders[id]? = some e → e.order.status ≠ .active → motive b)
    (active : ∀ e, b.orders[id]? = some e → e.order.status = .active →
      motive { (b.dequeue e) with
        orders := (b.dequeue e).orders.set id ({ e with order := { e.order with status := .cancelled, endt := b.t } }) }) :
    motive (b.cancelOrder id) := by
  unfold cancelOrder
  split
  · exact unknown ‹_›
  · rename_i e he
    split
    · rename_i ha
      have := active e he ha
      simp only [dequeue] at this
      cases hs : e.key.side <;> simp only [hs, setSide, side] at this ⊢ <;> exact this
    · exact ignored e he ‹_›

/-- The arguments of a re-entering modification: new price `p` and new volume `v` of entry `e`, of
which at least one is requested; a requested price is on the grid, a volume alone re-enters only
when it is not a reduction. -/
inductive Reenters (tick : Nat) (e : Entry) : Option Nat → Option Nat → Nat → Nat → Prop
  | volume (v : Nat) : ¬ v < e.order.vol → Reenters tick e none (some v) e.order.price v
  | price (p : Nat) : offGrid tick (some p) = false → Reenters tick e (some p) none p e.order.vol
  | both (p v : Nat) : offGrid tick (some p) = false → Reenters tick e (some p) (some v) p v

/-- `modify_order`: unknown id (a fault); an off-grid price, an order that is not Active, or nothing
requested (ignored); a pure volume reduction in place; a re-entry. -/
theorem modifyOrder_shapes {motive : Book → Prop} (b : Book) (id : Nat) (np nv : Option Nat)
    (unknown : b.orders[id]? = none → motive { b with fault := true })
    (ignored : ∀ e, b.orders[id]? = some e →
      offGrid b.tick np = true ∨ e.order.status ≠ .active ∨ (np = none ∧ nv = none) → motive b)
    (reduce : ∀ e v, b.orders[id]? = some e → e.order.status = .active → np = none → nv = some v →
      v < e.order.vol → motive (writeBack (b.reduceOrderVol e (e.order.vol - v)) id))
    (reenter : ∀ e p v, b.orders[id]? = some e → e.order.status = .active → offGrid b.tick np = false →
      Reenters b.tick e np nv p v → motive (writeBack (b.replaceOrder e p v) id)) :
    motive (b.modifyOrder id np nv) := by
  unfold modifyOrder
  split
  · exact unknown ‹_›
  · rename_i e he
    split
    · exact ignored e he (.inl ‹_›)
    · rename_i hg
      have hg : offGrid b.tick np = false := by simpa using hg
      split
      · rename_i ha
        unfold modifyEntry
        split
        · rw [show writeBack (b, e) id = b by simp [writeBack, set_of_getElem? he]]
          exact ignored e he (.inr (.inr ⟨rfl, rfl⟩))
        · split
          · exact reduce e _ he ha rfl rfl ‹_›
          · exact reenter e _ _ he ha hg (.volume _ ‹_›)
        · exact reenter e _ _ he ha hg (.price _ hg)
        · exact reenter e _ _ he ha hg (.both _ _ hg)
      · exact ignored e he (.inr (.inl ‹_›))

inductive _root_.Bourse.Op.Admin : Op → Prop
  | time (t : Nat) : Admin (.time t)
  | trading (on : Bool) : Admin (.trading on)
  | resetVol : Admin .resetVol

def _root_.Bourse.Event.toOp : Event → Op
  | .new id => .place id
  | .cancel id => .cancel id
  | .modify id p v => .modify id p v

/-- **The shapes of a step.** An event is its operation (`ev`, by `cases e <;> exact h` for a motive
that reads the operation through `ValidOp`, `KnownId` and the like); `create_and_place_order` is
`create_order` and, when a row was created, `place_order` of it. -/
theorem step_shapes {motive : Op → Book × Res → Prop} (b : Book)
    (create : ∀ sd vol tr p,
      motive (.create sd vol tr p) ((b.createOrder sd vol tr p).1, .ofCreate (b.createOrder sd vol tr p).2))
    (place : ∀ id, motive (.place id) (b.placeOrder id, .unit))
    (capPlaced : ∀ sd vol tr p id, (b.createOrder sd vol tr p).2 = .ok id →
      motive (.cap sd vol tr p) ((b.createOrder sd vol tr p).1.placeOrder id, .ok id))
    (capRefused : ∀ sd vol tr p q t, (b.createOrder sd vol tr p).2 = .priceError q t →
      motive (.cap sd vol tr p) ((b.createOrder sd vol tr p).1, .err q t))
    (cancel : ∀ id, motive (.cancel id) (b.cancelOrder id, .unit))
    (modify : ∀ id p v, motive (.modify id p v) (b.modifyOrder id p v, .unit))
    (ev : ∀ e r, motive e.toOp r → motive (.ev e) r)
    (admin : ∀ op, op.Admin → motive op (b.step op))
    (skipped : b.faulted = true → motive .reload (b, .unit))
    (reloaded : b.faulted = false → motive .reload (b.reload, .unit))
    (op : Op) : motive op (b.step op) := by
  cases op with
  | create sd vol tr p => exact create sd vol tr p
  | place id => exact place id
  | cap sd vol tr p =>
    simp only [step, createAndPlace]
    split
    · rename_i id hid
      exact capPlaced sd vol tr p id hid
    · rename_i q t hq
      exact capRefused sd vol tr p q t hq
  | cancel id => exact cancel id
  | modify id p v => exact modify id p v
  | ev e =>
    cases e with
    | new id => exact ev (.new id) _ (place id)
    | cancel id => exact ev (.cancel id) _ (cancel id)
    | modify id p v => exact ev (.modify id p v) _ (modify id p v)
  | time t => exact admin _ (.time t)
  | trading on => exact admin _ (.trading on)
  | resetVol => exact admin _ .resetVol
  | reload =>
    simp only [step]
    split
    · exact skipped ‹_›
    · exact reloaded (by simpa using ‹¬ b.faulted = true›)

end Book
end Bourse

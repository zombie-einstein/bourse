/-
The reader. Its steps are stated once as equations in `Option.map` / `Option.bind` form (the
dispatch of `parseValue` on the first character, one round of each container loop), for the two
arguments that go through it in opposite directions: whatever it accepts is balanced (here), and
it reads back what the writers wrote (JsonRoundTrip).

`Eats k s r`: reading `s` leaves `r`, and the part read moves the bracket depth by `k`. A value eats
with `k = 0`, the rest of a container up to its closing bracket with `k = -1`; every case of the
reader is a composition of such steps. Hence accepted texts are balanced, and no strict prefix of
a text `'{' :: w ++ ['}']` with `w` good is accepted.
-/
import Bourse.Lemmas.JsonScan

namespace Bourse
namespace Json

theorem skipWs_ws_append {w : List Char} (hw : AllWs w) (s : List Char) : skipWs (w ++ s) = skipWs s := by
  induction w with
  | nil => rfl
  | cons c w ih =>
    rw [List.cons_append, skipWs, if_pos (hw c List.mem_cons_self)]
    exact ih (fun x hx => hw x (List.mem_cons_of_mem _ hx))

theorem skipWs_cons_of_not {c : Char} (h : isWs c = false) (s : List Char) : skipWs (c :: s) = c :: s := by
  rw [skipWs, if_neg (by simp [h])]

theorem skipWs_split (s : List Char) : ∃ w, s = w ++ skipWs s ∧ AllWs w := by
  induction s with
  | nil => exact ⟨[], rfl, fun _ h => nomatch h⟩
  | cons c s ih =>
    rw [skipWs]
    split
    · obtain ⟨w, hw, hp⟩ := ih
      exact ⟨c :: w, congrArg (c :: ·) hw, List.forall_mem_cons.mpr ⟨‹_›, hp⟩⟩
    · exact ⟨[], rfl, fun _ h => nomatch h⟩

theorem skipWs_head {s t : List Char} {c : Char} (h : skipWs s = c :: t) : isWs c = false := by
  induction s with
  | nil => cases h
  | cons x s ih =>
    rw [skipWs] at h
    split at h
    · exact ih h
    · cases h
      exact (Bool.not_eq_true _).mp ‹_›

theorem parseValue_ws (fuel : Nat) {w : List Char} (hw : AllWs w) (s : List Char) :
    parseValue fuel (w ++ s) = parseValue fuel s := by
  cases fuel with
  | zero => simp [parseValue]
  | succ fuel => rw [parseValue, parseValue, skipWs_ws_append hw]

theorem parseValue_skipWs (fuel : Nat) (s : List Char) : parseValue fuel s = parseValue fuel (skipWs s) := by
  obtain ⟨w, hw, hws⟩ := skipWs_split s
  exact (congrArg _ hw).trans (parseValue_ws fuel hws _)

theorem parseValue_digit (fuel : Nat) {c : Char} (hc : isDigit c = true) (t : List Char) :
    parseValue (fuel + 1) (c :: t) = (parseNum (c :: t)).map fun p => (.num p.1, p.2) := by
  rw [parseValue, skipWs_cons_of_not (isDigit_not_ws hc)]
  simp only [if_neg (isDigit_ne hc (d := '"') (by decide)), if_neg (isDigit_ne hc (d := 't') (by decide)),
    if_neg (isDigit_ne hc (d := 'f') (by decide)), if_neg (isDigit_ne hc (d := '[') (by decide)),
    if_neg (isDigit_ne hc (d := '{') (by decide)), hc, if_true]
  cases parseNum (c :: t) <;> rfl

theorem parseValue_quote (fuel : Nat) (t : List Char) :
    parseValue (fuel + 1) ('"' :: t) = (parseStr t).map fun p => (.str p.1, p.2) := by
  rw [parseValue, skipWs_cons_of_not (by decide)]
  simp only [if_true]
  cases parseStr t <;> rfl

theorem parseValue_t (fuel : Nat) (t : List Char) :
    parseValue (fuel + 1) ('t' :: t) = (dropLit (lit "rue") t).map fun r => (.bool true, r) := by
  rw [parseValue, skipWs_cons_of_not (by decide)]
  simp
  cases dropLit (lit "rue") t <;> rfl

theorem parseValue_f (fuel : Nat) (t : List Char) :
    parseValue (fuel + 1) ('f' :: t) = (dropLit (lit "alse") t).map fun r => (.bool false, r) := by
  rw [parseValue, skipWs_cons_of_not (by decide)]
  simp
  cases dropLit (lit "alse") t <;> rfl

theorem parseValue_arr (fuel : Nat) (t : List Char) :
    parseValue (fuel + 1) ('[' :: t) =
      match skipWs t with
      | ']' :: r' => some (.arr [], r')
      | _ => (parseElems fuel t).map fun p => (.arr p.1, p.2) := by
  rw [parseValue, skipWs_cons_of_not (by decide)]
  simp
  cases parseElems fuel t <;> rfl

theorem parseValue_obj (fuel : Nat) (t : List Char) :
    parseValue (fuel + 1) ('{' :: t) =
      match skipWs t with
      | '}' :: r' => some (.obj [], r')
      | _ => (parseMembers fuel t).map fun p => (.obj p.1, p.2) := by
  rw [parseValue, skipWs_cons_of_not (by decide)]
  simp
  cases parseMembers fuel t <;> rfl

theorem parseValue_other (fuel : Nat) {c : Char} (t : List Char) (h0 : isWs c = false) (h1 : c ≠ '"') (h2 : c ≠ 't')
    (h3 : c ≠ 'f') (h4 : c ≠ '[') (h5 : c ≠ '{') (h6 : isDigit c = false) : parseValue (fuel + 1) (c :: t) = none := by
  rw [parseValue, skipWs_cons_of_not h0]
  simp only [if_neg h1, if_neg h2, if_neg h3, if_neg h4, if_neg h5, h6, Bool.false_eq_true, if_false]

def expect (c : Char) (s : List Char) : Option (List Char) :=
  match skipWs s with
  | d :: t => if d = c then some t else none
  | [] => none

theorem expect_eq {c : Char} {s t : List Char} (h : expect c s = some t) : skipWs s = c :: t := by
  rw [expect] at h
  split at h
  · obtain ⟨rfl, ⟨⟩⟩ := Option.ite_none_right_eq_some.mp h
    assumption
  · cases h

/-- What follows an element or a member: a comma and the rest, or the closing bracket. Both
container loops of the reader end in this. -/
def sepOrClose {α : Type} (close : Char) (more : List Char → Option (List α × List Char)) (x : α)
    (s : List Char) : Option (List α × List Char) :=
  match skipWs s with
  | c :: r => if c = ',' then (more r).map fun p => (x :: p.1, p.2) else if c = close then some ([x], r) else none
  | [] => none

theorem parseElems_succ (fuel : Nat) (s : List Char) :
    parseElems (fuel + 1) s = (parseValue fuel s).bind fun p => sepOrClose ']' (parseElems fuel) p.1 p.2 := by
  rw [parseElems]
  cases parseValue fuel s with
  | none => rfl
  | some p =>
    obtain ⟨v, r⟩ := p
    dsimp only [Option.bind_some, sepOrClose]
    cases skipWs r with
    | nil => rfl
    | cons c r' =>
      dsimp only
      cases parseElems fuel r' <;> rfl

theorem parseMembers_succ (fuel : Nat) (s : List Char) :
    parseMembers (fuel + 1) s =
      (expect '"' s).bind fun t => (parseStr t).bind fun kp => (expect ':' kp.2).bind fun r2 =>
        (parseValue fuel r2).bind fun vp => sepOrClose '}' (parseMembers fuel) (kp.1, vp.1) vp.2 := by
  rw [parseMembers, expect]
  cases skipWs s with
  | nil => rfl
  | cons c t =>
    dsimp only
    split
    case isFalse => rfl
    dsimp only [Option.bind_some]
    cases parseStr t with
    | none => rfl
    | some kp =>
      obtain ⟨k, r1⟩ := kp
      dsimp only [Option.bind_some, expect]
      cases skipWs r1 with
      | nil => rfl
      | cons c2 r2 =>
        dsimp only
        split
        case isFalse => rfl
        dsimp only [Option.bind_some]
        cases parseValue fuel r2 with
        | none => rfl
        | some vp =>
          obtain ⟨v, r3⟩ := vp
          dsimp only [Option.bind_some, sepOrClose]
          cases skipWs r3 with
          | nil => rfl
          | cons c4 r4 =>
            dsimp only
            cases parseMembers fuel r4 <;> rfl

theorem parseStr_spec : ∀ (r x r' : List Char), parseStr r = some (x, r') → r = x ++ '"' :: r' ∧ '"' ∉ x := by
  intro r
  induction r with
  | nil => intro x r' h; cases h
  | cons c r ih =>
    intro x r' h
    rw [parseStr] at h
    split at h
    · cases h
      subst c
      exact ⟨rfl, List.not_mem_nil⟩
    split at h
    · cases h
    split at h
    · cases h
    split at h
    · rename_i y r'' hy
      cases h
      obtain ⟨h3, h4⟩ := ih y _ hy
      exact ⟨by rw [h3]; rfl, fun hm => (List.mem_cons.mp hm).elim (fun e => ‹¬c = '"'› e.symm) h4⟩
    · cases h

theorem spanDigits_spec (s : List Char) :
    s = (spanDigits s).1 ++ (spanDigits s).2 ∧ ∀ c ∈ (spanDigits s).1, plain c := by
  induction s with
  | nil => simp [spanDigits]
  | cons c s ih =>
    unfold spanDigits
    split
    · rename_i hc
      refine ⟨by simp only [List.cons_append]; rw [← ih.1], ?_⟩
      intro x hx
      rcases List.mem_cons.mp hx with rfl | hx
      · exact isDigit_plain hc
      · exact ih.2 x hx
    · simp

theorem dropLit_spec {l s r : List Char} (h : dropLit l s = some r) : s = l ++ r := by
  unfold dropLit at h
  split at h
  · rename_i hp
    injection h with h
    have hp' : l <+: s := List.isPrefixOf_iff_prefix.mp hp
    obtain ⟨t, ht⟩ := hp'
    subst ht
    simp at h
    rw [h]
  · cases h

def Eats (k : Int) (s r : List Char) : Prop := ∃ c, s = c ++ r ∧ ∀ d : Int, scan (d, false) c = (d + k, false)

namespace Eats
variable {a b k : Int} {s t r : List Char} {c : Char}

theorem trans (h1 : Eats a s t) (h2 : Eats b t r) : Eats (a + b) s r := by
  obtain ⟨c1, rfl, e1⟩ := h1
  obtain ⟨c2, rfl, e2⟩ := h2
  exact ⟨c1 ++ c2, (List.append_assoc ..).symm, fun d => by rw [scan_append, e1, e2, Int.add_assoc]⟩

theorem chunk {w : List Char} (h : Bal w) (r : List Char) : Eats 0 (w ++ r) r :=
  ⟨w, rfl, fun d => by rw [h d, Int.add_zero]⟩

theorem ws (h : skipWs s = t) : Eats 0 s t := by
  obtain ⟨w, hw, hws⟩ := skipWs_split s
  rw [hw, h]
  exact chunk hws.good.1 t

theorem step (h : ∀ d : Int, stepI (d, false) c = (d + k, false)) (t : List Char) : Eats k (c :: t) t :=
  ⟨[c], rfl, fun d => by rw [scan_cons, h, scan_nil]⟩

theorem plain (h : Json.plain c) (t : List Char) : Eats 0 (c :: t) t :=
  step (fun d => by rw [stepI_plain d c h, Int.add_zero]) t

theorem opn (h : c = '{' ∨ c = '[') (t : List Char) : Eats 1 (c :: t) t :=
  step (fun d => stepI_open d h) t

theorem cls (h : c = '}' ∨ c = ']') (t : List Char) : Eats (-1) (c :: t) t :=
  step (fun d => stepI_close d h) t

theorem str {x : List Char} (h : parseStr t = some (x, r)) : Eats 0 ('"' :: t) r := by
  obtain ⟨h1, h2⟩ := parseStr_spec _ _ _ h
  have := chunk (good_quote h2).1 r
  rw [quote, List.cons_append, List.cons_append, List.append_assoc] at this
  exact h1 ▸ this

theorem num {n : Nat} (h : parseNum s = some (n, r)) : Eats 0 s r := by
  have hs := spanDigits_spec s
  have hr : r = (spanDigits s).2 := by
    unfold parseNum at h
    split at h
    · cases h
    · split at h
      · injection h with h; injection h with _ h2; exact h2.symm
      · cases h
    · cases h
    · split at h
      · injection h with h; injection h with _ h2; exact h2.symm
      · cases h
  rw [hs.1, hr]
  exact chunk (fun d => scan_plain d _ hs.2) _

theorem lit {l : List Char} (hl : ∀ c ∈ l, Json.plain c) (h : dropLit l t = some r) : Eats 0 t r :=
  dropLit_spec h ▸ chunk (fun d => scan_plain d l hl) r

end Eats

theorem sepOrClose_eats {α : Type} {close : Char} (hc : close = '}' ∨ close = ']')
    {more : List Char → Option (List α × List Char)} (ih : ∀ t l r, more t = some (l, r) → Eats (-1) t r)
    {x : α} {s : List Char} {l : List α} {r : List Char} (h : sepOrClose close more x s = some (l, r)) :
    Eats (-1) s r := by
  rw [sepOrClose] at h
  split at h
  case h_2 => cases h
  rename_i c t hsk
  refine (Eats.ws hsk).trans (?_ : Eats (-1) (c :: t) r)
  split at h
  · obtain ⟨⟨l', r'⟩, hx, ⟨⟩⟩ := Option.map_eq_some_iff.mp h
    subst c
    exact (Eats.plain (by decide) t).trans (ih _ _ _ hx)
  · split at h
    · cases h
      subst c
      exact .cls hc _
    · cases h

theorem parseValue_eats (fuel : Nat)
    (ihE : ∀ s vs r, parseElems fuel s = some (vs, r) → Eats (-1) s r)
    (ihM : ∀ s ms r, parseMembers fuel s = some (ms, r) → Eats (-1) s r)
    (s : List Char) (v : J) (r : List Char) (h : parseValue (fuel + 1) s = some (v, r)) : Eats 0 s r := by
  rw [parseValue_skipWs] at h
  refine (Eats.ws rfl).trans (?_ : Eats 0 (skipWs s) r)
  cases hsk : skipWs s with
  | nil => rw [hsk, parseValue, skipWs] at h; cases h
  | cons c t =>
    have h0 := skipWs_head hsk
    rw [hsk] at h
    by_cases h1 : c = '"'
    · subst h1
      rw [parseValue_quote] at h
      obtain ⟨⟨x, r'⟩, hx, ⟨⟩⟩ := Option.map_eq_some_iff.mp h
      exact .str hx
    by_cases h2 : c = 't'
    · subst h2
      rw [parseValue_t] at h
      obtain ⟨r', hx, ⟨⟩⟩ := Option.map_eq_some_iff.mp h
      exact (Eats.plain (by decide) t).trans (.lit (by decide) hx)
    by_cases h3 : c = 'f'
    · subst h3
      rw [parseValue_f] at h
      obtain ⟨r', hx, ⟨⟩⟩ := Option.map_eq_some_iff.mp h
      exact (Eats.plain (by decide) t).trans (.lit (by decide) hx)
    by_cases h4 : c = '['
    · subst h4
      rw [parseValue_arr] at h
      refine (Eats.opn (Or.inr rfl) t).trans (?_ : Eats (-1) t r)
      split at h
      · rename_i r' hsk2
        cases h
        exact (Eats.ws hsk2).trans (.cls (Or.inr rfl) r)
      · obtain ⟨⟨vs, r'⟩, hx, ⟨⟩⟩ := Option.map_eq_some_iff.mp h
        exact ihE _ _ _ hx
    by_cases h5 : c = '{'
    · subst h5
      rw [parseValue_obj] at h
      refine (Eats.opn (Or.inl rfl) t).trans (?_ : Eats (-1) t r)
      split at h
      · rename_i r' hsk2
        cases h
        exact (Eats.ws hsk2).trans (.cls (Or.inl rfl) r)
      · obtain ⟨⟨ms, r'⟩, hx, ⟨⟩⟩ := Option.map_eq_some_iff.mp h
        exact ihM _ _ _ hx
    cases h6 : isDigit c with
    | false => rw [parseValue_other fuel t h0 h1 h2 h3 h4 h5 h6] at h; cases h
    | true =>
      rw [parseValue_digit fuel h6] at h
      obtain ⟨⟨n, r'⟩, hx, ⟨⟩⟩ := Option.map_eq_some_iff.mp h
      exact .num hx

theorem parse_eats (fuel : Nat) :
    (∀ s v r, parseValue fuel s = some (v, r) → Eats 0 s r) ∧
    (∀ s vs r, parseElems fuel s = some (vs, r) → Eats (-1) s r) ∧
    (∀ s ms r, parseMembers fuel s = some (ms, r) → Eats (-1) s r) := by
  induction fuel with
  | zero =>
    refine ⟨?_, ?_, ?_⟩ <;> intro s v r h
    · simp [parseValue] at h
    · simp [parseElems] at h
    · simp [parseMembers] at h
  | succ fuel ih =>
    obtain ⟨ihV, ihE, ihM⟩ := ih
    refine ⟨parseValue_eats fuel ihE ihM, ?_, ?_⟩
    · intro s vs r h
      rw [parseElems_succ] at h
      obtain ⟨⟨v, r1⟩, hv, h⟩ := Option.bind_eq_some_iff.mp h
      exact (ihV _ _ _ hv).trans (sepOrClose_eats (Or.inr rfl) ihE h)
    · intro s ms r h
      rw [parseMembers_succ] at h
      obtain ⟨t, ht, h⟩ := Option.bind_eq_some_iff.mp h
      obtain ⟨⟨k, r1⟩, hk, h⟩ := Option.bind_eq_some_iff.mp h
      obtain ⟨r2, hc, h⟩ := Option.bind_eq_some_iff.mp h
      obtain ⟨⟨v, r3⟩, hv, h⟩ := Option.bind_eq_some_iff.mp h
      exact (Eats.ws (expect_eq ht)).trans ((Eats.str hk).trans ((Eats.ws (expect_eq hc)).trans
        ((Eats.plain (by decide) _).trans ((ihV _ _ _ hv).trans (sepOrClose_eats (Or.inl rfl) ihM h)))))

/-- **Accepted texts are balanced.** -/
theorem parse_balanced {s : List Char} {v : J} (h : parse s = some v) : scan (0, false) s = (0, false) := by
  unfold parse at h
  split at h
  · rename_i v' r hv
    split at h
    · rename_i hr
      obtain ⟨c, rfl, hc⟩ := ((parse_eats _).1 _ _ _ hv).trans (.ws hr)
      rw [List.append_nil, hc]
      rfl
    · cases h
  · cases h

/-- **A written object cut short anywhere is rejected.** For every text of the form
`'{' :: w ++ ['}']` with `w` good — every object either writer produces — no strict prefix is
accepted by the reader. -/
theorem prefix_rejected_of_good {w : List Char} (hw : Good w) (p : List Char)
    (hp : p <+: '{' :: w ++ ['}']) (hne : p ≠ '{' :: w ++ ['}']) : parse p = none := by
  cases hpar : parse p with
  | none => rfl
  | some v =>
    exfalso
    have hb := parse_balanced hpar
    by_cases hnil : p = []
    · subst hnil; simp [parse, parseValue, skipWs] at hpar
    · have := wrap_prefix_depth hw '{' '}' (Or.inl rfl) p hp hne hnil
      rw [hb] at this
      simp at this

end Json
end Bourse

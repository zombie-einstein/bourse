/-
The writers. Both are instances of one layout-parametric writer `renderW` (a layout says which
whitespace goes after an opening bracket, after a comma, before a closing bracket and after a
colon), and every layout that only inserts whitespace writes *good* texts (balanced, never dipping
below the starting depth) for every JSON value whose strings contain no quote — in particular for
every snapshot, compact or pretty.
-/
import Bourse.Lemmas.JsonScan

namespace Bourse
namespace Json

structure Layout where
  /-- after the opening bracket of a non-empty container at nesting `lvl` -/
  opn : Nat → List Char
  /-- after a comma inside a container at nesting `lvl` -/
  sep : Nat → List Char
  /-- before the closing bracket of a non-empty container at nesting `lvl` -/
  cls : Nat → List Char
  /-- after the colon of a member -/
  col : List Char

mutual
def renderW (L : Layout) (lvl : Nat) : J → List Char
  | .num n => natDigits n
  | .str s => quote s
  | .bool true => lit "true"
  | .bool false => lit "false"
  | .arr [] => lit "[]"
  | .arr (x :: r) => '[' :: L.opn lvl ++ renderElemsW L lvl (x :: r) ++ L.cls lvl ++ [']']
  | .obj [] => lit "{}"
  | .obj (x :: r) => '{' :: L.opn lvl ++ renderMembersW L lvl (x :: r) ++ L.cls lvl ++ ['}']
def renderElemsW (L : Layout) (lvl : Nat) : List J → List Char
  | [] => []
  | [x] => renderW L (lvl + 1) x
  | x :: y :: r => renderW L (lvl + 1) x ++ ',' :: L.sep lvl ++ renderElemsW L lvl (y :: r)
def renderMembersW (L : Layout) (lvl : Nat) : List (List Char × J) → List Char
  | [] => []
  | [(k, v)] => quote k ++ ':' :: L.col ++ renderW L (lvl + 1) v
  | (k, v) :: y :: r =>
    quote k ++ ':' :: L.col ++ renderW L (lvl + 1) v ++ ',' :: L.sep lvl ++ renderMembersW L lvl (y :: r)
end

def compactL : Layout := { opn := fun _ => [], sep := fun _ => [], cls := fun _ => [], col := [] }

def prettyL : Layout :=
  { opn := fun lvl => '\n' :: indent (lvl + 1), sep := fun lvl => '\n' :: indent (lvl + 1),
    cls := fun lvl => '\n' :: indent lvl, col := [' '] }

mutual
theorem renderCompact_eq : (lvl : Nat) → (j : J) → renderCompact j = renderW compactL lvl j
  | _, .num _ => by rw [renderCompact, renderW]
  | _, .str _ => by rw [renderCompact, renderW]
  | _, .bool true => by rw [renderCompact, renderW]
  | _, .bool false => by rw [renderCompact, renderW]
  | _, .arr [] => by rw [renderCompact, renderW, renderElemsC]; decide
  | lvl, .arr (x :: r) => by
    rw [renderCompact, renderW, renderElemsC_eq lvl (x :: r)]; simp [compactL]
  | _, .obj [] => by rw [renderCompact, renderW, renderMembersC]; decide
  | lvl, .obj (x :: r) => by
    rw [renderCompact, renderW, renderMembersC_eq lvl (x :: r)]; simp [compactL]
theorem renderElemsC_eq : (lvl : Nat) → (l : List J) → renderElemsC l = renderElemsW compactL lvl l
  | _, [] => by rw [renderElemsC, renderElemsW]
  | lvl, [x] => by rw [renderElemsC, renderElemsW, renderCompact_eq (lvl + 1) x]
  | lvl, x :: y :: r => by
    rw [renderElemsC, renderElemsW, renderCompact_eq (lvl + 1) x, renderElemsC_eq lvl (y :: r)]; simp [compactL]
theorem renderMembersC_eq : (lvl : Nat) → (l : List (List Char × J)) → renderMembersC l = renderMembersW compactL lvl l
  | _, [] => by rw [renderMembersC, renderMembersW]
  | lvl, [(k, v)] => by rw [renderMembersC, renderMembersW, renderCompact_eq (lvl + 1) v]; simp [compactL]
  | lvl, (k, v) :: y :: r => by
    rw [renderMembersC, renderMembersW, renderCompact_eq (lvl + 1) v, renderMembersC_eq lvl (y :: r)]; simp [compactL]
end

mutual
theorem renderPretty_eq : (lvl : Nat) → (j : J) → renderPretty lvl j = renderW prettyL lvl j
  | _, .num _ => by rw [renderPretty, renderW]
  | _, .str _ => by rw [renderPretty, renderW]
  | _, .bool true => by rw [renderPretty, renderW]
  | _, .bool false => by rw [renderPretty, renderW]
  | _, .arr [] => by rw [renderPretty, renderW]
  | lvl, .arr (x :: r) => by
    rw [renderPretty, renderW, renderElemsP_eq lvl (x :: r) (by simp)]
    simp [prettyL, List.append_assoc]
  | _, .obj [] => by rw [renderPretty, renderW]
  | lvl, .obj (x :: r) => by
    rw [renderPretty, renderW, renderMembersP_eq lvl (x :: r) (by simp)]
    simp [prettyL, List.append_assoc]
/-- `renderElemsW L lvl` is given the level of the container, `renderElemsP lvl` the level of the
elements, and the pretty element list carries the indentation of its first element itself: hence
`lvl + 1` and `indent (lvl + 1)` here. -/
theorem renderElemsP_eq : (lvl : Nat) → (l : List J) → l ≠ [] →
    renderElemsP (lvl + 1) l = indent (lvl + 1) ++ renderElemsW prettyL lvl l
  | _, [], h => absurd rfl h
  | lvl, [x], _ => by rw [renderElemsP, renderElemsW, renderPretty_eq (lvl + 1) x]
  | lvl, x :: y :: r, _ => by
    rw [renderElemsP, renderElemsW, renderPretty_eq (lvl + 1) x, renderElemsP_eq lvl (y :: r) (by simp)]
    simp [prettyL, List.append_assoc]
theorem renderMembersP_eq : (lvl : Nat) → (l : List (List Char × J)) → l ≠ [] →
    renderMembersP (lvl + 1) l = indent (lvl + 1) ++ renderMembersW prettyL lvl l
  | _, [], h => absurd rfl h
  | lvl, [(k, v)], _ => by
    rw [renderMembersP, renderMembersW, renderPretty_eq (lvl + 1) v]; simp [prettyL, List.append_assoc]
  | lvl, (k, v) :: y :: r, _ => by
    rw [renderMembersP, renderMembersW, renderPretty_eq (lvl + 1) v, renderMembersP_eq lvl (y :: r) (by simp)]
    simp [prettyL, List.append_assoc]
end

theorem allWs_indent (n : Nat) : AllWs (indent n) := by
  intro c hc
  have := List.eq_of_mem_replicate hc
  subst this; decide

structure Layout.Ws (L : Layout) : Prop where
  opn : ∀ lvl, AllWs (L.opn lvl)
  sep : ∀ lvl, AllWs (L.sep lvl)
  cls : ∀ lvl, AllWs (L.cls lvl)
  col : AllWs L.col

theorem compactL_ws : compactL.Ws := by
  refine ⟨?_, ?_, ?_, ?_⟩ <;> intros <;> intro c hc <;> simp [compactL] at hc

theorem prettyL_ws : prettyL.Ws := by
  have h : ∀ n, AllWs ('\n' :: indent n) := fun n => List.forall_mem_cons.mpr ⟨by decide, allWs_indent n⟩
  refine ⟨fun lvl => h _, fun lvl => h _, fun lvl => h _, ?_⟩
  intro c hc
  simp [prettyL] at hc
  subst hc
  decide

/-- The writer `save_json(path, pretty)` uses. -/
def layoutOf (pretty : Bool) : Layout := if pretty then prettyL else compactL

theorem layoutOf_ws (pretty : Bool) : (layoutOf pretty).Ws := by
  cases pretty
  · exact compactL_ws
  · exact prettyL_ws

theorem render_eq_renderW (pretty : Bool) (j : J) :
    (if pretty then renderPretty 0 j else renderCompact j) = renderW (layoutOf pretty) 0 j := by
  cases pretty
  · exact renderCompact_eq 0 j
  · exact renderPretty_eq 0 j

mutual
/-- No string (value or member name) contains a quote: what the depth argument needs. The stronger
`J.WF2` (JsonRoundTrip: no character that would need an escape) is what reading back needs, and implies
this one (`J.WF2.wf`). -/
def J.WF : J → Prop
  | .num _ => True
  | .str s => '"' ∉ s
  | .bool _ => True
  | .arr l => WFList l
  | .obj l => WFMembers l
def WFList : List J → Prop
  | [] => True
  | x :: r => x.WF ∧ WFList r
def WFMembers : List (List Char × J) → Prop
  | [] => True
  | (k, v) :: r => '"' ∉ k ∧ v.WF ∧ WFMembers r
end

theorem isDigit_digitChar : ∀ d, d < 10 → isDigit (digitChar d) = true := by decide

/-! The fuel of `natDigitsAux` never runs out, so `natDigits` obeys the school recursion
(`natDigits_of_lt`, `natDigits_of_ge`), and facts about written numbers go by induction on the number. -/

theorem natDigitsAux_succ (fuel n : Nat) (acc : List Char) :
    natDigitsAux (fuel + 1) n acc =
      if n < 10 then digitChar n :: acc else natDigitsAux fuel (n / 10) (digitChar (n % 10) :: acc) := by
  rw [natDigitsAux]

theorem natDigitsAux_acc (fuel n : Nat) (acc : List Char) :
    natDigitsAux fuel n acc = natDigitsAux fuel n [] ++ acc := by
  induction fuel generalizing n acc with
  | zero => rfl
  | succ fuel ih =>
    rw [natDigitsAux_succ, natDigitsAux_succ]
    split
    · rfl
    · rw [ih _ (_ :: acc), ih _ [_], List.append_assoc]
      rfl

theorem natDigitsAux_fuel {f g n : Nat} (hf : n < 10 ^ (f + 1)) (hg : n < 10 ^ (g + 1)) :
    natDigitsAux (f + 1) n [] = natDigitsAux (g + 1) n [] := by
  induction f generalizing g n with
  | zero => rw [natDigitsAux_succ, natDigitsAux_succ, if_pos hf, if_pos hf]
  | succ f ih =>
    rw [natDigitsAux_succ (f + 1), natDigitsAux_succ g]
    split
    · rfl
    · cases g with
      | zero => omega
      | succ g =>
        rw [natDigitsAux_acc, natDigitsAux_acc (g + 1), ih (g := g)]
        · rw [Nat.pow_succ] at hf; omega
        · rw [Nat.pow_succ] at hg; omega

theorem natDigits_of_lt {n : Nat} (h : n < 10) : natDigits n = [digitChar n] := by
  rw [natDigits, natDigitsAux_succ, if_pos h]

theorem natDigits_of_ge {n : Nat} (h : 10 ≤ n) : natDigits n = natDigits (n / 10) ++ [digitChar (n % 10)] := by
  obtain ⟨m, rfl⟩ : ∃ m, n = m + 1 := ⟨n - 1, by omega⟩
  obtain ⟨k, rfl⟩ : ∃ k, m = k + 1 := ⟨m - 1, by omega⟩
  rw [natDigits, natDigitsAux_succ, if_neg (by omega), natDigitsAux_acc, natDigits,
    natDigitsAux_fuel (g := (k + 1 + 1) / 10) _
      (Nat.lt_of_lt_of_le (Nat.lt_pow_self (by decide)) (Nat.pow_le_pow_right (by decide) (Nat.le_succ _)))]
  exact Nat.lt_of_lt_of_le (Nat.lt_pow_self (by decide)) (Nat.pow_le_pow_right (by decide) (by omega))

theorem natDigits_digits (n : Nat) : ∀ c ∈ natDigits n, isDigit c = true := by
  induction n using Nat.strongRecOn with
  | _ n ih =>
    by_cases h : n < 10
    · rw [natDigits_of_lt h]
      intro c hc
      rw [List.mem_singleton.mp hc]
      exact isDigit_digitChar n h
    · rw [natDigits_of_ge (by omega)]
      intro c hc
      rcases List.mem_append.mp hc with hc | hc
      · exact ih _ (by omega) c hc
      · rw [List.mem_singleton.mp hc]
        exact isDigit_digitChar _ (Nat.mod_lt _ (by decide))

theorem natDigits_good (n : Nat) : Good (natDigits n) :=
  good_plain fun c hc => isDigit_plain (natDigits_digits n c hc)

theorem good_cons {c : Char} {w : List Char} (hc : plain c) (hw : Good w) : Good (c :: w) :=
  good_append (a := [c]) (good_plain (by simpa using hc)) hw

theorem Layout.Ws.good_body {L : Layout} (hL : L.Ws) (lvl : Nat) {w : List Char} (hw : Good w) :
    Good (L.opn lvl ++ w ++ L.cls lvl) :=
  good_append (good_append (hL.opn lvl).good hw) (hL.cls lvl).good

theorem Layout.Ws.good_sep {L : Layout} (hL : L.Ws) (lvl : Nat) : Good (',' :: L.sep lvl) :=
  good_cons (by decide) (hL.sep lvl).good

theorem Layout.Ws.good_key {L : Layout} (hL : L.Ws) {k : List Char} (hk : '"' ∉ k) : Good (quote k ++ ':' :: L.col) :=
  good_append (good_quote hk) (good_cons (by decide) hL.col.good)

mutual
/-- One structural induction for every layout, hence for both writers. -/
theorem renderW_good (L : Layout) (hL : L.Ws) : (lvl : Nat) → (j : J) → j.WF → Good (renderW L lvl j)
  | _, .num n, _ => by rw [renderW]; exact natDigits_good n
  | _, .str s, h => by rw [renderW]; rw [J.WF] at h; exact good_quote h
  | _, .bool true, _ => by rw [renderW]; exact good_plain (by decide)
  | _, .bool false, _ => by rw [renderW]; exact good_plain (by decide)
  | _, .arr [], _ => by rw [renderW]; exact good_wrap good_nil '[' ']' (Or.inr rfl) (Or.inr rfl)
  | lvl, .arr (x :: r), h => by
    rw [renderW]; rw [J.WF] at h
    exact good_wrap (hL.good_body lvl (renderElemsW_good L hL lvl (x :: r) h)) '[' ']' (Or.inr rfl) (Or.inr rfl)
  | _, .obj [], _ => by rw [renderW]; exact good_wrap good_nil '{' '}' (Or.inl rfl) (Or.inl rfl)
  | lvl, .obj (x :: r), h => by
    rw [renderW]; rw [J.WF] at h
    exact good_wrap (hL.good_body lvl (renderMembersW_good L hL lvl (x :: r) h)) '{' '}' (Or.inl rfl) (Or.inl rfl)
theorem renderElemsW_good (L : Layout) (hL : L.Ws) : (lvl : Nat) → (l : List J) → WFList l →
    Good (renderElemsW L lvl l)
  | _, [], _ => by rw [renderElemsW]; exact good_nil
  | _, [x], h => by rw [renderElemsW]; exact renderW_good L hL _ x h.1
  | lvl, x :: y :: r, h => by
    rw [renderElemsW]
    exact good_append (good_append (renderW_good L hL _ x h.1) (hL.good_sep lvl))
      (renderElemsW_good L hL lvl (y :: r) h.2)
theorem renderMembersW_good (L : Layout) (hL : L.Ws) : (lvl : Nat) → (l : List (List Char × J)) →
    WFMembers l → Good (renderMembersW L lvl l)
  | _, [], _ => by rw [renderMembersW]; exact good_nil
  | _, [(k, v)], h => by
    rw [renderMembersW]
    exact good_append (hL.good_key h.1) (renderW_good L hL _ v h.2.1)
  | lvl, (k, v) :: y :: r, h => by
    rw [renderMembersW]
    exact good_append (good_append (good_append (hL.good_key h.1) (renderW_good L hL _ v h.2.1))
      (hL.good_sep lvl)) (renderMembersW_good L hL lvl (y :: r) h.2.2)
end

theorem renderCompact_good : (j : J) → j.WF → Good (renderCompact j) := fun j h => by
  rw [renderCompact_eq 0]
  exact renderW_good compactL compactL_ws 0 j h

theorem renderElemsC_good : (l : List J) → WFList l → Good (renderElemsC l) := fun l h => by
  rw [renderElemsC_eq 0]
  exact renderElemsW_good compactL compactL_ws 0 l h

theorem renderPretty_good : (lvl : Nat) → (j : J) → j.WF → Good (renderPretty lvl j) := fun lvl j h => by
  rw [renderPretty_eq]
  exact renderW_good prettyL prettyL_ws lvl j h

/-- `renderElemsP_eq` reaches only levels `lvl + 1`; this is for every level, so it is a list induction
over `renderPretty_good`. -/
theorem renderElemsP_good : (lvl : Nat) → (l : List J) → WFList l → Good (renderElemsP lvl l)
  | _, [], _ => by rw [renderElemsP]; exact good_nil
  | lvl, [x], h => by
    rw [renderElemsP]
    exact good_append (allWs_indent lvl).good (renderPretty_good lvl x h.1)
  | lvl, x :: y :: r, h => by
    rw [renderElemsP]
    exact good_append (good_append (allWs_indent lvl).good (renderPretty_good lvl x h.1))
      (good_cons (by decide) (good_cons (by decide) (renderElemsP_good lvl (y :: r) h.2)))

end Json
end Bourse

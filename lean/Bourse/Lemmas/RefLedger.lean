/-
The trade ledger of the reference engine (C03): what one run of the match loop appends to the
log, and how it accounts for every unit of volume the aggressor and the resting orders lose.
(The transfer to the implementation model is in `RefTransfer`.)
-/
import Bourse.Lemmas.RefArrival

namespace Bourse

/-- Total volume of the trades of `ts` in which order `id` took part (as aggressor or passive). -/
def tradedOf (id : Nat) (ts : List Trade) : Nat :=
  ((ts.filter (fun tr => tr.active == id || tr.passive == id)).map (·.vol)).sum

theorem tradedOf_nil (id : Nat) : tradedOf id [] = 0 := rfl

theorem tradedOf_append (id : Nat) (a b : List Trade) : tradedOf id (a ++ b) = tradedOf id a + tradedOf id b := by
  simp [tradedOf, List.filter_append]

theorem tradedOf_cons (id : Nat) (tr : Trade) (ts : List Trade) :
    tradedOf id (tr :: ts) = (if tr.active = id ∨ tr.passive = id then tr.vol else 0) + tradedOf id ts := by
  simp only [tradedOf, List.filter_cons, Bool.or_eq_true, beq_iff_eq]
  split <;> simp

theorem tradedOf_single (id : Nat) (tr : Trade) :
    tradedOf id [tr] = if tr.active = id ∨ tr.passive = id then tr.vol else 0 := by
  simp [tradedOf_cons, tradedOf_nil]

/-- A trade record produced by an aggressor `agg` against the table `os`. -/
structure TradeOk (t : Nat) (os : List Order) (agg : Order) (q : List Nat) (tr : Trade) : Prop where
  time : tr.t = t
  pos : 0 < tr.vol
  act : tr.active = agg.id
  pas : tr.passive ∈ q
  side : tr.side = agg.side.opp
  adm : Ref.admits agg.side agg.price tr.price = true
  entry : ∃ o, os[tr.passive]? = some o ∧ o.price = tr.price ∧ o.side = tr.side

/-- The volume accounting of a stretch of the match loop from `st` to `r` that logged `new`: what the
aggressor and every other record lost is the volume of the new trades they took part in. (What the
records look like is `Ref.matchQ_trades`, what else happens to a record `Ref.Filled`.) -/
structure Ledger (st r : Ref.MatchSt) (new : List Trade) : Prop where
  trades : r.trades = st.trades ++ new
  tradeVol : r.tradeVol = st.tradeVol + (new.map (·.vol)).sum
  pos : ∀ tr ∈ new, 0 < tr.vol
  aggId : r.agg.id = st.agg.id
  agg : r.agg.vol + tradedOf st.agg.id new = st.agg.vol
  others : ∀ (id : Nat) (o : Order), st.orders[id]? = some o → id ≠ st.agg.id →
    ∃ o', r.orders[id]? = some o' ∧ o'.vol + tradedOf id new = o.vol

theorem Ledger.refl (st : Ref.MatchSt) : Ledger st st [] :=
  ⟨by simp, by simp, by simp, rfl, by simp [tradedOf_nil], fun _ o ho _ => ⟨o, ho, by simp [tradedOf_nil]⟩⟩

theorem Ledger.fill {t j : Nat} {st : Ref.MatchSt} {pass : Order} (hget : st.orders[j]? = some pass)
    (hid : pass.id = j) (hpv : 0 < pass.vol) (hV : 0 < st.agg.vol) (hne : j ≠ st.agg.id) :
    Ledger st (Ref.fillSt t st j pass) [Ref.mkTrade t pass st.agg.id (min st.agg.vol pass.vol)] := by
  have hf1 : min st.agg.vol pass.vol ≤ st.agg.vol := Nat.min_le_left ..
  have hf2 : min st.agg.vol pass.vol ≤ pass.vol := Nat.min_le_right ..
  refine ⟨rfl, by simp [Ref.fillSt, Ref.mkTrade], fun tr htr => ?_, by simp [Ref.fillSt], ?_, fun id o ho hne' => ?_⟩
  · rw [List.mem_singleton.mp htr]
    simp only [Ref.mkTrade]
    omega
  · simp only [Ref.fillSt, Ref.filledBy_vol, tradedOf_single, Ref.mkTrade, true_or, if_true]
    omega
  · rw [Ref.fillSt_get hget, tradedOf_single]
    by_cases hij : id = j
    · subst hij
      rw [hget] at ho; cases ho
      exact ⟨_, if_pos rfl, by simp [Ref.mkTrade, hid]; omega⟩
    · exact ⟨o, by rw [if_neg hij, ho], by simp [Ref.mkTrade, hid, Ne.symm hij, Ne.symm hne']⟩

/-- Two stretches, one after the other. (It composes without side conditions, but `matchQ_accounts`
still needs `matchQ_induct` rather than `matchQ_lift`: a single fill satisfies it only while the
queue ahead holds distinct records with volume, which a relation on loop states cannot say.) -/
theorem Ledger.trans {st st1 r : Ref.MatchSt} {n1 n2 : List Trade} (h1 : Ledger st st1 n1) (h2 : Ledger st1 r n2) :
    Ledger st r (n1 ++ n2) := by
  have h2a := h2.agg
  rw [h1.aggId] at h2a
  refine ⟨by rw [h2.trades, h1.trades, List.append_assoc], by rw [h2.tradeVol, h1.tradeVol]; simp [Nat.add_assoc],
    fun tr htr => (List.mem_append.mp htr).elim (h1.pos tr) (h2.pos tr), h2.aggId.trans h1.aggId, ?_, fun id o ho hne => ?_⟩
  · have := h1.agg
    rw [tradedOf_append]
    omega
  · obtain ⟨o1, ho1, hv1⟩ := h1.others id o ho hne
    obtain ⟨o2, ho2, hv2⟩ := h2.others id o1 ho1 (h1.aggId ▸ hne)
    exact ⟨o2, ho2, by rw [tradedOf_append]; omega⟩

/-- The accounting of one run of the loop. Positive trade volumes are what needs the queue to hold
distinct ids of records with volume (a record met twice would be met empty). -/
theorem matchQ_accounts (t : Nat) (q : List Nat) (st : Ref.MatchSt)
    (hq : ∀ j ∈ q, ∃ o, st.orders[j]? = some o ∧ o.id = j ∧ 0 < o.vol) (hnd : q.Nodup) (hagg : st.agg.id ∉ q) :
    ∃ new, Ledger st (Ref.matchQ t q st).2 new := by
  revert hq hnd hagg
  refine Ref.matchQ_induct (motive := fun q st r =>
    (∀ j ∈ q, ∃ o, st.orders[j]? = some o ∧ o.id = j ∧ 0 < o.vol) → q.Nodup → st.agg.id ∉ q →
      ∃ new, Ledger st r.2 new) ?_ ?_ ?_ ?_ q st
  · exact fun st _ _ _ => ⟨[], Ledger.refl st⟩
  · exact fun _ _ st _ _ _ _ => ⟨[], Ledger.refl st⟩
  · intro j q st pass hget hV _ _ hq _ hagg
    obtain ⟨o, ho, hid, hpv⟩ := hq j List.mem_cons_self
    rw [hget] at ho; cases ho
    exact ⟨_, Ledger.fill hget hid hpv hV fun h => hagg (h ▸ List.mem_cons_self)⟩
  · intro j q st pass r hget hV _ _ ih hq hnd hagg
    obtain ⟨o, ho, hid, hpv⟩ := hq j List.mem_cons_self
    rw [hget] at ho; cases ho
    have hnd' := List.nodup_cons.mp hnd
    obtain ⟨new, hL⟩ := ih (fun j' hj' => by
        rw [Ref.fillSt_get hget, if_neg (fun h : j' = j => hnd'.1 (h ▸ hj'))]
        exact hq j' (List.mem_cons_of_mem _ hj')) hnd'.2
      (by simpa [Ref.fillSt] using fun h => hagg (List.mem_cons_of_mem _ h))
    exact ⟨_, (Ledger.fill hget hid hpv hV fun h => hagg (h ▸ List.mem_cons_self)).trans hL⟩

/-- **The ledger of one run of the reference match loop.** If every queued id names a record with
that id, positive volume, on the side opposite the aggressor, ids in the queue are distinct and the
aggressor is not queued, then: the log grows by a suffix of well-formed records, the counter grows
by their total volume, the aggressor lost exactly the volume of its new trades, and every other
order lost exactly the volume of the new trades it took part in — nothing else about it changed
but volume, status and end time. -/
theorem matchQ_ledger (t : Nat) (q : List Nat) (st : Ref.MatchSt)
    (hq : ∀ j ∈ q, ∃ o, st.orders[j]? = some o ∧ o.id = j ∧ 0 < o.vol ∧ o.side = st.agg.side.opp)
    (hnd : q.Nodup) (hagg : st.agg.id ∉ q) :
    ∃ new, (Ref.matchQ t q st).2.trades = st.trades ++ new ∧
      (Ref.matchQ t q st).2.tradeVol = st.tradeVol + (new.map (·.vol)).sum ∧
      (∀ tr ∈ new, TradeOk t st.orders st.agg q tr) ∧
      (Ref.matchQ t q st).2.agg.vol + tradedOf st.agg.id new = st.agg.vol ∧
      sameIdent st.agg (Ref.matchQ t q st).2.agg ∧
      (∀ (id : Nat) (o : Order), st.orders[id]? = some o → id ≠ st.agg.id →
        ∃ o', (Ref.matchQ t q st).2.orders[id]? = some o' ∧ o'.vol + tradedOf id new = o.vol ∧ sameIdent o o') ∧
      (∀ (id : Nat), st.orders[id]? = none → (Ref.matchQ t q st).2.orders[id]? = none) ∧
      (Ref.matchQ t q st).2.orders.length = st.orders.length := by
  obtain ⟨new, hL⟩ := matchQ_accounts t q st (fun j hj => (hq j hj).imp fun _ h => ⟨h.1, h.2.1, h.2.2.1⟩) hnd hagg
  obtain ⟨new', hnew, hshape⟩ := Ref.matchQ_trades t q st
  obtain rfl : new' = new := List.append_cancel_left (hnew.symm.trans hL.trades)
  obtain ⟨hrec, hid, hlen⟩ := Ref.matchQ_rel (Ref.filled_fillRel t) q st
  refine ⟨new', hL.trades, hL.tradeVol, fun tr htr => ?_, hL.agg, hid.1, fun id o ho hne => ?_, fun id hn => ?_, hlen⟩
  · -- the anatomy of the record, read against the hypotheses on the queue
    obtain ⟨ht, hact, j, hj, o, ho, hpas, hprice, hside, hadm⟩ := hshape tr htr
    obtain ⟨o2, ho2, hoid, _, hos⟩ := hq j hj
    rw [ho] at ho2; cases ho2
    rw [hoid] at hpas
    exact ⟨ht, hL.pos tr htr, hact, hpas ▸ hj, hside.trans hos, hprice ▸ hadm, o, hpas ▸ ho, hprice.symm, hside.symm⟩
  · obtain ⟨o', ho', hv⟩ := hL.others id o ho hne
    obtain ⟨o'', ho'', hf⟩ := hrec id o ho
    rw [ho'] at ho''; cases ho''
    exact ⟨o', ho', hv, hf.1⟩
  · rw [List.getElem?_eq_none_iff] at hn ⊢
    rw [hlen]; exact hn

theorem enter_ledger (s : Ref.RState) (hw : QWf s) (agg : Order) (market : Bool)
    (hout : agg.id ∉ s.queue agg.side.opp) :
    ∃ new, (Ref.enter s agg market).1.trades = s.trades ++ new ∧
      (∀ tr ∈ new, TradeOk s.t s.orders agg (s.queue agg.side.opp) tr) ∧
      (Ref.enter s agg market).2.vol + tradedOf agg.id new = agg.vol ∧
      sameIdent agg (Ref.enter s agg market).2 ∧
      (∀ (id : Nat) (o : Order), s.orders[id]? = some o → id ≠ agg.id →
        ∃ o', (Ref.enter s agg market).1.orders[id]? = some o' ∧ o'.vol + tradedOf id new = o.vol ∧ sameIdent o o') ∧
      (∀ (id : Nat), s.orders[id]? = none → (Ref.enter s agg market).1.orders[id]? = none) ∧
      (Ref.enter s agg market).1.t = s.t ∧ (Ref.enter s agg market).1.tick = s.tick ∧
      (Ref.enter s agg market).1.orders.length = s.orders.length := by
  -- `enter` keeps the match phase's table and log, and changes the returned record in status and end
  -- time only: what is left speaks of the match phase
  obtain ⟨st, e, hsnd⟩ := Ref.enter_snd_shape s agg market
  obtain ⟨ho, ht⟩ := Ref.enter_orders s agg market
  rw [hsnd, ho, ht, Ref.enter_t, Ref.enter_tick]
  by_cases htr : s.trading = true
  · rw [Ref.matchPhase_on htr]
    have hq : ∀ j ∈ s.queue agg.side.opp, ∃ o, s.orders[j]? = some o ∧ o.id = j ∧ 0 < o.vol ∧ o.side = agg.side.opp :=
      fun j hj => let ⟨o, ho, _, hs, hv⟩ := hw.qok _ j hj; ⟨o, ho, hw.ids j o ho, hv, hs⟩
    obtain ⟨new, h1, _, h3, h4, h5, h6, h7, h8⟩ := matchQ_ledger s.t (s.queue agg.side.opp)
      ⟨s.orders, s.trades, s.tradeVol, agg⟩ hq (hw.nd _) hout
    exact ⟨new, h1, h3, h4, h5, h6, h7, rfl, rfl, h8⟩
  · rw [Ref.matchPhase_off (by simpa using htr)]
    exact ⟨[], by simp, by simp, by simp [tradedOf_nil], sameIdent.refl _,
      fun id o ho _ => ⟨o, ho, by simp [tradedOf_nil], sameIdent.refl o⟩, fun id h => h, rfl, rfl, rfl⟩

end Bourse

/-
Reading back what was written: `parse (render j) = some j` for both writers (C07, first sentence,
at the level of the JSON text).

Proved once for the layout-parametric writer `renderW` (JsonRender) and every layout that only
inserts whitespace, by induction on the reader's fuel through the reader's step equations
(JsonParse): strings, numbers and literals first, then values, elements and members together.
Last, where reader and writers meet again: no strict prefix of a written object is read.
-/
import Bourse.Lemmas.JsonParse
import Bourse.Lemmas.JsonRender

namespace Bourse
namespace Json

/-- Characters a string may contain (what the writers never escape). -/
def StrOk (s : List Char) : Prop := ∀ c ∈ s, c ≠ '"' ∧ c ≠ '\\' ∧ ¬ c.toNat < 32

instance (s : List Char) : Decidable (StrOk s) := by unfold StrOk; infer_instance

theorem parseStr_quote {s : List Char} (h : StrOk s) (r : List Char) : parseStr (s ++ '"' :: r) = some (s, r) := by
  induction s with
  | nil => simp [parseStr]
  | cons c s ih =>
    obtain ⟨h1, h2, h3⟩ := h c List.mem_cons_self
    rw [List.cons_append, parseStr, if_neg h1, if_neg h2, if_neg h3, ih (fun x hx => h x (List.mem_cons_of_mem _ hx))]

theorem dropLit_append (l r : List Char) : dropLit l (l ++ r) = some r := by
  unfold dropLit
  rw [if_pos (List.isPrefixOf_iff_prefix.mpr (List.prefix_append l r))]
  simp

theorem digitChar_val : ∀ d, d < 10 → (digitChar d).toNat - 48 = d := by decide

theorem digitsToNat_snoc (ds : List Char) (c : Char) : digitsToNat (ds ++ [c]) = digitsToNat ds * 10 + (c.toNat - 48) := by
  rw [digitsToNat, List.foldl_append]
  rfl

theorem digitsToNat_natDigits (n : Nat) : digitsToNat (natDigits n) = n := by
  induction n using Nat.strongRecOn with
  | _ n ih =>
    by_cases h : n < 10
    · rw [natDigits_of_lt h]
      exact (Nat.zero_add _).trans (digitChar_val n h)
    · rw [natDigits_of_ge (by omega), digitsToNat_snoc, ih _ (by omega), digitChar_val _ (Nat.mod_lt _ (by decide))]
      omega

theorem natDigits_head (n : Nat) : ∃ c t, natDigits n = c :: t ∧ isDigit c = true ∧ (c = '0' → n = 0) := by
  induction n using Nat.strongRecOn with
  | _ n ih =>
    by_cases h : n < 10
    · refine ⟨digitChar n, [], natDigits_of_lt h, isDigit_digitChar n h, ?_⟩
      have : ∀ d, d < 10 → digitChar d = '0' → d = 0 := by decide
      exact this n h
    · obtain ⟨c, t, hct, hc, h0⟩ := ih (n / 10) (by omega)
      refine ⟨c, t ++ [digitChar (n % 10)], by rw [natDigits_of_ge (by omega), hct]; rfl, hc, fun hc0 => ?_⟩
      have := h0 hc0
      omega

/-- What may follow a number in a written text: nothing, or a character that neither continues the
digits nor starts a fraction or an exponent. -/
def Term (r : List Char) : Prop := (∀ c t, r = c :: t → isDigit c = false) ∧ numEnd r = true

theorem spanDigits_append {ds : List Char} (hd : ∀ c ∈ ds, isDigit c = true) {r : List Char}
    (hr : ∀ c t, r = c :: t → isDigit c = false) : spanDigits (ds ++ r) = (ds, r) := by
  induction ds with
  | nil =>
    cases r with
    | nil => rfl
    | cons c t => simp [spanDigits, hr c t rfl]
  | cons c ds ih =>
    rw [List.cons_append, spanDigits, if_pos (hd c List.mem_cons_self),
      ih (fun x hx => hd x (List.mem_cons_of_mem _ hx))]

theorem parseNum_natDigits (n : Nat) {r : List Char} (hr : Term r) : parseNum (natDigits n ++ r) = some (n, r) := by
  have hsp := spanDigits_append (natDigits_digits n) hr.1
  unfold parseNum
  rw [hsp]
  simp only
  by_cases h0 : n = 0
  · subst h0
    rw [show natDigits 0 = ['0'] by decide]
    simp [hr.2]
  · obtain ⟨c, t, hct, _, hc⟩ := natDigits_head n
    have hval := digitsToNat_natDigits n
    rw [hct] at hval ⊢
    split
    · rename_i heq; cases heq
    · rename_i heq; injection heq with h1 _; exact absurd (hc h1) h0
    · rename_i heq; injection heq with h1 _; exact absurd (hc h1) h0
    · simp [hr.2, hval]

theorem parseElems_ws (fuel : Nat) {w : List Char} (hw : AllWs w) (s : List Char) :
    parseElems fuel (w ++ s) = parseElems fuel s := by
  cases fuel with
  | zero => simp [parseElems]
  | succ fuel => rw [parseElems, parseElems, parseValue_ws fuel hw]

theorem parseMembers_ws (fuel : Nat) {w : List Char} (hw : AllWs w) (s : List Char) :
    parseMembers fuel (w ++ s) = parseMembers fuel s := by
  cases fuel with
  | zero => simp [parseMembers]
  | succ fuel => rw [parseMembers, parseMembers, skipWs_ws_append hw]

mutual
/-- No string (value or member name) needs an escape: only characters the writers emit verbatim. -/
def J.WF2 : J → Prop
  | .num _ => True
  | .str s => StrOk s
  | .bool _ => True
  | .arr l => WF2List l
  | .obj l => WF2Members l
def WF2List : List J → Prop
  | [] => True
  | x :: r => x.WF2 ∧ WF2List r
def WF2Members : List (List Char × J) → Prop
  | [] => True
  | (k, v) :: r => StrOk k ∧ v.WF2 ∧ WF2Members r
end

mutual
/-- The fuel the reader needs for a written value: the measure of `reads_renderW`. -/
def J.size : J → Nat
  | .num _ => 1
  | .str _ => 1
  | .bool _ => 1
  | .arr l => 1 + sizeList l
  | .obj l => 1 + sizeMembers l
def sizeList : List J → Nat
  | [] => 0
  | x :: r => x.size + 1 + sizeList r
def sizeMembers : List (List Char × J) → Nat
  | [] => 0
  | (_, v) :: r => v.size + 1 + sizeMembers r
end

/-- Whether a number ends in front of `c :: r` depends on `c` alone. -/
theorem term_cons {c : Char} (hd : isDigit c = false) (hn : numEnd [c] = true) (r : List Char) : Term (c :: r) := by
  refine ⟨fun x t hx => ?_, ?_⟩
  · cases hx
    exact hd
  · unfold numEnd at hn ⊢
    split <;> simp_all

theorem term_ws_then {w : List Char} (hw : AllWs w) {c : Char} (hc : c = ',' ∨ c = ']' ∨ c = '}') (r : List Char) :
    Term (w ++ c :: r) := by
  cases w with
  | nil =>
    rcases hc with rfl | rfl | rfl <;> exact term_cons (by decide) (by decide) r
  | cons x w =>
    have hx := hw x List.mem_cons_self
    simp only [isWs, Bool.or_eq_true, beq_iff_eq] at hx
    rcases hx with ((rfl | rfl) | rfl) | rfl <;> exact term_cons (by decide) (by decide) _

theorem lit_true : lit "true" = 't' :: lit "rue" := by decide
theorem lit_false : lit "false" = 'f' :: lit "alse" := by decide

theorem quote_append (s r : List Char) : quote s ++ r = '"' :: (s ++ '"' :: r) := by
  simp [quote]

theorem expect_cons {c : Char} (h : isWs c = false) (t : List Char) : expect c (c :: t) = some t := by
  rw [expect, skipWs_cons_of_not h]
  exact if_pos rfl

theorem sepOrClose_close {α : Type} {close : Char} (hc : close = '}' ∨ close = ']')
    (more : List Char → Option (List α × List Char)) (x : α) {w : List Char} (hw : AllWs w) (r : List Char) :
    sepOrClose close more x (w ++ close :: r) = some ([x], r) := by
  rw [sepOrClose, skipWs_ws_append hw]
  rcases hc with rfl | rfl
  · rw [skipWs_cons_of_not (by decide)]
    rfl
  · rw [skipWs_cons_of_not (by decide)]
    rfl

theorem parseMembers_member (fuel : Nat) {k : List Char} (hk : StrOk k) {w s r : List Char} (hw : AllWs w) {v : J}
    (hv : parseValue fuel s = some (v, r)) :
    parseMembers (fuel + 1) ('"' :: (k ++ '"' :: ':' :: (w ++ s))) = sepOrClose '}' (parseMembers fuel) (k, v) r := by
  rw [parseMembers_succ, expect_cons (by decide), Option.bind_some, parseStr_quote hk, Option.bind_some,
    expect_cons (by decide), Option.bind_some, parseValue_ws fuel hw, hv, Option.bind_some]

theorem parseValue_close (fuel : Nat) {s t : List Char} {c : Char} (hs : skipWs s = c :: t) (hc : c = ']' ∨ c = '}') :
    parseValue fuel s = none := by
  cases fuel with
  | zero => rw [parseValue]
  | succ fuel =>
    rw [parseValue_skipWs, hs]
    rcases hc with rfl | rfl
    · exact parseValue_other fuel t (by decide) (by decide) (by decide) (by decide) (by decide) (by decide) (by decide)
    · exact parseValue_other fuel t (by decide) (by decide) (by decide) (by decide) (by decide) (by decide) (by decide)

/-- The reader tries the empty array first; if the elements can be read, the text after the bracket
does not start with `]`, since no value does. -/
theorem parseValue_arr_of {fuel : Nat} {w t r : List Char} {l : List J} (hw : AllWs w)
    (h : parseElems fuel t = some (l, r)) : parseValue (fuel + 1) ('[' :: (w ++ t)) = some (.arr l, r) := by
  rw [parseValue_arr, skipWs_ws_append hw, parseElems_ws fuel hw, h]
  split
  · rename_i r' hsk
    cases fuel with
    | zero => simp [parseElems] at h
    | succ f =>
      rw [parseElems_succ, parseValue_close f hsk (Or.inl rfl)] at h
      cases h
  · rfl

theorem parseValue_obj_of {fuel : Nat} {w t r : List Char} {l : List (List Char × J)} (hw : AllWs w)
    (h : parseMembers fuel t = some (l, r)) : parseValue (fuel + 1) ('{' :: (w ++ t)) = some (.obj l, r) := by
  rw [parseValue_obj, skipWs_ws_append hw, parseMembers_ws fuel hw, h]
  split
  · rename_i r' hsk
    cases fuel with
    | zero => simp [parseMembers] at h
    | succ f =>
      rw [parseMembers_succ] at h
      obtain ⟨t', ht, _⟩ := Option.bind_eq_some_iff.mp h
      rw [expect_eq ht] at hsk
      exact absurd (List.cons.inj hsk).1 (by decide)
  · rfl

theorem sepOrClose_more {α : Type} {close : Char} {more : List Char → Option (List α × List Char)} {x : α}
    {w s r : List Char} {l : List α} (hws : more (w ++ s) = more s) (h : more s = some (l, r)) :
    sepOrClose close more x (',' :: (w ++ s)) = some (x :: l, r) := by
  rw [sepOrClose, skipWs_cons_of_not (by decide)]
  exact (if_pos rfl).trans (by rw [hws, h]; rfl)

theorem parseValue_renderW_succ (L : Layout) (hL : L.Ws) (f : Nat)
    (ihE : ∀ lvl l, l ≠ [] → WF2List l → sizeList l ≤ f → ∀ r,
      parseElems f (renderElemsW L lvl l ++ (L.cls lvl ++ ']' :: r)) = some (l, r))
    (ihM : ∀ lvl l, l ≠ [] → WF2Members l → sizeMembers l ≤ f → ∀ r,
      parseMembers f (renderMembersW L lvl l ++ (L.cls lvl ++ '}' :: r)) = some (l, r))
    (lvl : Nat) (j : J) (h : j.WF2) (hf : j.size ≤ f + 1) (r : List Char) (hr : Term r) :
    parseValue (f + 1) (renderW L lvl j ++ r) = some (j, r) := by
  match j, h, hf with
  | .num n, _, _ =>
    obtain ⟨c, t, hct, hc, _⟩ := natDigits_head n
    rw [renderW, hct, List.cons_append, parseValue_digit f hc, ← List.cons_append, ← hct, parseNum_natDigits n hr]
    rfl
  | .str s, h, _ =>
    rw [J.WF2] at h
    rw [renderW, quote_append, parseValue_quote, parseStr_quote h]
    rfl
  | .bool true, _, _ =>
    rw [renderW, lit_true, List.cons_append, parseValue_t, dropLit_append]
    rfl
  | .bool false, _, _ =>
    rw [renderW, lit_false, List.cons_append, parseValue_f, dropLit_append]
    rfl
  | .arr [], _, _ =>
    rw [renderW]
    refine (parseValue_arr f (']' :: r)).trans ?_
    rw [skipWs_cons_of_not (by decide)]
    rfl
  | .arr (x :: l), h, hf =>
    rw [J.WF2] at h
    rw [J.size] at hf
    rw [renderW]
    simp only [List.cons_append, List.append_assoc, List.nil_append]
    exact parseValue_arr_of (hL.opn lvl) (ihE lvl (x :: l) (List.cons_ne_nil _ _) h (by omega) r)
  | .obj [], _, _ =>
    rw [renderW]
    refine (parseValue_obj f ('}' :: r)).trans ?_
    rw [skipWs_cons_of_not (by decide)]
    rfl
  | .obj (x :: l), h, hf =>
    rw [J.WF2] at h
    rw [J.size] at hf
    rw [renderW]
    simp only [List.cons_append, List.append_assoc, List.nil_append]
    exact parseValue_obj_of (hL.opn lvl) (ihM lvl (x :: l) (List.cons_ne_nil _ _) h (by omega) r)

/-- **Reading back**, by induction on the fuel: values, the elements of a non-empty array up to its
closing bracket and the members of a non-empty object up to its closing brace, together. -/
theorem reads_renderW (L : Layout) (hL : L.Ws) (fuel : Nat) :
    (∀ lvl j, j.WF2 → j.size ≤ fuel → ∀ r, Term r → parseValue fuel (renderW L lvl j ++ r) = some (j, r)) ∧
    (∀ lvl l, l ≠ [] → WF2List l → sizeList l ≤ fuel → ∀ r,
      parseElems fuel (renderElemsW L lvl l ++ (L.cls lvl ++ ']' :: r)) = some (l, r)) ∧
    (∀ lvl l, l ≠ [] → WF2Members l → sizeMembers l ≤ fuel → ∀ r,
      parseMembers fuel (renderMembersW L lvl l ++ (L.cls lvl ++ '}' :: r)) = some (l, r)) := by
  induction fuel with
  | zero =>
    refine ⟨fun _ j _ hf => ?_, fun _ l hne _ hf => ?_, fun _ l hne _ hf => ?_⟩
    · cases j <;> simp [J.size] at hf
    · cases l with
      | nil => exact absurd rfl hne
      | cons x l => simp [sizeList] at hf
    · cases l with
      | nil => exact absurd rfl hne
      | cons x l => simp [sizeMembers] at hf
  | succ f ih =>
    obtain ⟨ihV, ihE, ihM⟩ := ih
    refine ⟨parseValue_renderW_succ L hL f ihE ihM, ?_, ?_⟩
    · intro lvl l hne hw hf r
      rw [parseElems_succ]
      match l, hne, hw, hf with
      | [x], _, hw, hf =>
        rw [sizeList, sizeList] at hf
        rw [renderElemsW, ihV (lvl + 1) x hw.1 (by omega) _ (term_ws_then (hL.cls lvl) (Or.inr (Or.inl rfl)) r)]
        exact sepOrClose_close (Or.inr rfl) _ x (hL.cls lvl) r
      | x :: y :: l, _, hw, hf =>
        rw [sizeList] at hf
        rw [renderElemsW]
        simp only [List.cons_append, List.append_assoc]
        rw [ihV (lvl + 1) x hw.1 (by omega) _ (term_cons (by decide) (by decide) _), Option.bind_some]
        exact sepOrClose_more (parseElems_ws f (hL.sep lvl) _)
          (ihE lvl (y :: l) (List.cons_ne_nil _ _) hw.2 (by omega) r)
    · intro lvl l hne hw hf r
      match l, hne, hw, hf with
      | [(k, v)], _, hw, hf =>
        rw [sizeMembers, sizeMembers] at hf
        rw [renderMembersW]
        simp only [quote_append, List.cons_append, List.append_assoc]
        rw [parseMembers_member f hw.1 hL.col
          (ihV (lvl + 1) v hw.2.1 (by omega) _ (term_ws_then (hL.cls lvl) (Or.inr (Or.inr rfl)) r))]
        exact sepOrClose_close (Or.inl rfl) _ (k, v) (hL.cls lvl) r
      | (k, v) :: y :: l, _, hw, hf =>
        rw [sizeMembers] at hf
        rw [renderMembersW]
        simp only [quote_append, List.cons_append, List.append_assoc]
        rw [parseMembers_member f hw.1 hL.col (ihV (lvl + 1) v hw.2.1 (by omega) _ (term_cons (by decide) (by decide) _))]
        exact sepOrClose_more (parseMembers_ws f (hL.sep lvl) _)
          (ihM lvl (y :: l) (List.cons_ne_nil _ _) hw.2.2 (by omega) r)

theorem parseElems_renderW (L : Layout) (hL : L.Ws) : (lvl : Nat) → (l : List J) → l ≠ [] → WF2List l →
    (fuel : Nat) → sizeList l ≤ fuel → (r : List Char) →
    parseElems fuel (renderElemsW L lvl l ++ (L.cls lvl ++ ']' :: r)) = some (l, r) :=
  fun lvl l hne hw fuel hf r => (reads_renderW L hL fuel).2.1 lvl l hne hw hf r

theorem parseMembers_renderW (L : Layout) (hL : L.Ws) : (lvl : Nat) → (l : List (List Char × J)) → l ≠ [] →
    WF2Members l → (fuel : Nat) → sizeMembers l ≤ fuel → (r : List Char) →
    parseMembers fuel (renderMembersW L lvl l ++ (L.cls lvl ++ '}' :: r)) = some (l, r) :=
  fun lvl l hne hw fuel hf r => (reads_renderW L hL fuel).2.2 lvl l hne hw hf r

mutual
theorem size_le_length (L : Layout) : (lvl : Nat) → (j : J) → j.size ≤ (renderW L lvl j).length
  | _, .num n => by
    obtain ⟨c, t, h, _⟩ := natDigits_head n
    rw [renderW, J.size, h]
    exact Nat.succ_pos _
  | _, .str s => by rw [renderW, J.size]; simp [quote]
  | _, .bool true => by rw [renderW, J.size]; decide
  | _, .bool false => by rw [renderW, J.size]; decide
  | _, .arr [] => by rw [renderW, J.size, sizeList]; decide
  | lvl, .arr (x :: l) => by
    rw [renderW, J.size]
    have := sizeList_le_length L lvl (x :: l)
    simp only [List.length_cons, List.length_append, List.length_nil] at this ⊢
    omega
  | _, .obj [] => by rw [renderW, J.size, sizeMembers]; decide
  | lvl, .obj (x :: l) => by
    rw [renderW, J.size]
    have := sizeMembers_le_length L lvl (x :: l)
    simp only [List.length_cons, List.length_append, List.length_nil] at this ⊢
    omega
theorem sizeList_le_length (L : Layout) : (lvl : Nat) → (l : List J) → sizeList l ≤ (renderElemsW L lvl l).length + 1
  | _, [] => by rw [sizeList]; omega
  | lvl, [x] => by
    rw [sizeList, sizeList, renderElemsW]
    have := size_le_length L (lvl + 1) x
    omega
  | lvl, x :: y :: l => by
    rw [sizeList, renderElemsW]
    have h1 := size_le_length L (lvl + 1) x
    have h2 := sizeList_le_length L lvl (y :: l)
    simp only [List.length_cons, List.length_append] at h2 ⊢
    omega
theorem sizeMembers_le_length (L : Layout) : (lvl : Nat) → (l : List (List Char × J)) →
    sizeMembers l ≤ (renderMembersW L lvl l).length + 1
  | _, [] => by rw [sizeMembers]; omega
  | lvl, [(k, v)] => by
    rw [sizeMembers, sizeMembers, renderMembersW]
    have := size_le_length L (lvl + 1) v
    simp only [List.length_cons, List.length_append]
    omega
  | lvl, (k, v) :: y :: l => by
    rw [sizeMembers, renderMembersW]
    have h1 := size_le_length L (lvl + 1) v
    have h2 := sizeMembers_le_length L lvl (y :: l)
    simp only [List.length_cons, List.length_append] at h2 ⊢
    omega
end

/-- **Reading back a written text gives the value that was written**, for every layout that only
inserts whitespace. -/
theorem parse_renderW (L : Layout) (hL : L.Ws) (j : J) (h : j.WF2) : parse (renderW L 0 j) = some j := by
  unfold parse
  have hsz : j.size ≤ (renderW L 0 j).length + 1 := Nat.le_succ_of_le (size_le_length L 0 j)
  have := (reads_renderW L hL _).1 0 j h hsz [] ⟨fun _ _ h => (nomatch h), rfl⟩
  rw [List.append_nil] at this
  rw [this]
  simp [skipWs]

theorem parse_render (pretty : Bool) (j : J) (h : j.WF2) :
    parse (if pretty then renderPretty 0 j else renderCompact j) = some j := by
  rw [render_eq_renderW]
  exact parse_renderW _ (layoutOf_ws pretty) j h

theorem StrOk.noQuote {s : List Char} (h : StrOk s) : '"' ∉ s := fun hm => (h _ hm).1 rfl

mutual
/-- What reads back is also what truncation rejects: strings that need no escaping contain no quote. -/
theorem J.WF2.wf : (j : J) → j.WF2 → j.WF
  | .num _, _ => trivial
  | .str _, h => by rw [J.WF2] at h; rw [J.WF]; exact h.noQuote
  | .bool _, _ => trivial
  | .arr l, h => by rw [J.WF2] at h; rw [J.WF]; exact WF2List.wf l h
  | .obj l, h => by rw [J.WF2] at h; rw [J.WF]; exact WF2Members.wf l h
theorem WF2List.wf : (l : List J) → WF2List l → WFList l
  | [], _ => trivial
  | x :: r, h => by rw [WF2List] at h; rw [WFList]; exact ⟨J.WF2.wf x h.1, WF2List.wf r h.2⟩
theorem WF2Members.wf : (l : List (List Char × J)) → WF2Members l → WFMembers l
  | [], _ => trivial
  | (k, v) :: r, h => by
    rw [WF2Members] at h; rw [WFMembers]
    exact ⟨h.1.noQuote, J.WF2.wf v h.2.1, WF2Members.wf r h.2.2⟩
end

/-- **A written object cut short anywhere is rejected, whatever the whitespace layout.** -/
theorem truncated_renderW_rejected (L : Layout) (hL : L.Ws) (l : List (List Char × J)) (hwf : (J.obj l).WF)
    (p : List Char) (hp : p <+: renderW L 0 (.obj l)) (hne : p ≠ renderW L 0 (.obj l)) : parse p = none := by
  rw [J.WF] at hwf
  cases l with
  | nil => exact prefix_rejected_of_good good_nil p hp hne
  | cons x r =>
    rw [renderW] at hp hne
    exact prefix_rejected_of_good
      (hL.good_body 0 (renderMembersW_good L hL 0 (x :: r) hwf)) p hp hne

theorem take_renderW_rejected (L : Layout) (hL : L.Ws) (l : List (List Char × J)) (hwf : (J.obj l).WF) (k : Nat)
    (hk : k < (renderW L 0 (.obj l)).length) : parse ((renderW L 0 (.obj l)).take k) = none := by
  refine truncated_renderW_rejected L hL l hwf _ (List.take_prefix _ _) fun heq => ?_
  have := congrArg List.length heq
  rw [List.length_take] at this
  omega

end Json
end Bourse

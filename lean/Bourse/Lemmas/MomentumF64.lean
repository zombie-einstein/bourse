/-
The momentum signal of `Model/FloatAgents.lean` in `f64` arithmetic: mirroring the observed mid-price
path about a fixed level negates the signal `M` at every update and leaves both trade probabilities
unchanged, bit for bit — for every `tanh` implementation that is odd.
-/
import Bourse.Model.FloatAgents
import Bourse.Lemmas.F64Sym

namespace Bourse
namespace FAgents
open F64

theorem sub_mirror (L x y : ℚ) :
    F64.sub (.fin (2 * L - x)) (.fin (2 * L - y)) = F64.neg (F64.sub (.fin x) (.fin y)) := by
  show rnd ((2 * L - x) + -(2 * L - y)) = F64.neg (rnd (x + -y))
  rw [← rnd_neg]; congr 1; ring

/-- The recurrence `M' = M(1 − decay) + decay(P − p)` on a mirrored price step and a negated signal
gives the negated result. -/
theorem nextM_mirror (c : MomP) (m p mid p' mid' : F)
    (h : F64.sub mid' p' = F64.neg (F64.sub mid p)) :
    nextM c (F64.neg m) p' mid' = F64.neg (nextM c m p mid) := by
  unfold nextM
  rw [h, mul_neg_left, mul_neg_right, add_neg_neg]

/-- The trade probability depends on `|M|` only. -/
theorem pMarket_neg (c : MomP) (th : F → F) (hodd : ∀ x, th (F64.neg x) = F64.neg (th x)) (hn : 0 < c.n) (m : F) :
    pMarket c th (F64.neg m) = pMarket c th m := by
  unfold pMarket F64.ofNat
  have hq : (0 : ℚ) < (c.n : ℚ) := Nat.cast_pos.mpr hn
  rw [mul_neg_right, hodd, mul_neg_right, div_neg_left _ _ hq, F64.abs_neg]

/-- The state of the mirrored run: signal negated, last observed mid-price mirrored. -/
def mirrorState (L : ℚ) (s : MomState) : MomState :=
  { orders := s.orders, m := F64.neg s.m,
    last := s.last.map fun p => match p with | .fin y => .fin (2 * L - y) | x => x }

/-- **One update, mirrored**: with the previous mid-price and the current one mirrored about `L` and
the previous signal negated, the new signal is negated and both probabilities are the same values. -/
theorem signal_mirror (c : MomP) (th : F → F) (hodd : ∀ x, th (F64.neg x) = F64.neg (th x)) (hn : 0 < c.n)
    (L : ℚ) (s : MomState) (x : ℚ) (hlast : ∀ p, s.last = some p → ∃ y, p = .fin y) :
    signal c th (mirrorState L s) (.fin (2 * L - x)) =
      (F64.neg (signal c th s (.fin x)).1, (signal c th s (.fin x)).2.1, (signal c th s (.fin x)).2.2) := by
  unfold signal mirrorState
  cases hl : s.last with
  | none => simp [F64.neg]
  | some p =>
    obtain ⟨y, rfl⟩ := hlast p hl
    simp only [Option.map_some]
    have hm := nextM_mirror c s.m (.fin y) (.fin x) (.fin (2 * L - y)) (.fin (2 * L - x)) (sub_mirror L x y)
    rw [hm, pMarket_neg c th hodd hn]

/-- The sequence of `(M, p_market, p_limit)` along a path of observed mid-prices. -/
def signalsFrom (c : MomP) (th : F → F) : MomState → List ℚ → List (F × F × F)
  | _, [] => []
  | s, x :: rest =>
    let r := signal c th s (.fin x)
    r :: signalsFrom c th { s with last := some (.fin x), m := r.1 } rest

/-- **Mirroring a whole price history** about a fixed level: at every update the signal is the
negative of the original run's and both probabilities are identical — in `f64`, for every decay,
demand, scale, order ratio, number of traders and every odd `tanh`. Since a trader buys iff
`0 < M` and sells iff `M < 0` with these probabilities against the same uniform draws, buys become
sells at the same steps. -/
theorem signals_mirror (c : MomP) (th : F → F) (hodd : ∀ x, th (F64.neg x) = F64.neg (th x)) (hn : 0 < c.n)
    (L : ℚ) (path : List ℚ) (s : MomState) (hlast : ∀ p, s.last = some p → ∃ y, p = .fin y) :
    signalsFrom c th (mirrorState L s) (path.map fun x => 2 * L - x) =
      (signalsFrom c th s path).map fun r => (F64.neg r.1, r.2.1, r.2.2) := by
  induction path generalizing s with
  | nil => rfl
  | cons x rest ih =>
    simp only [List.map_cons, signalsFrom]
    rw [signal_mirror c th hodd hn L s x hlast]
    congr 1
    have := ih { s with last := some (.fin x), m := (signal c th s (.fin x)).1 }
      (by intro p hp; simp at hp; exact ⟨x, hp.symm⟩)
    simpa [mirrorState] using this

/-- Direction: a negated signal swaps the buy test `0 < M` and the sell test `M < 0`. -/
theorem direction_mirror (m : F) :
    F64.lt (.fin 0) (F64.neg m) = F64.lt m (.fin 0) ∧ F64.lt (F64.neg m) (.fin 0) = F64.lt (.fin 0) m := by
  cases m <;> simp [F64.neg, F64.lt]

end FAgents
end Bourse

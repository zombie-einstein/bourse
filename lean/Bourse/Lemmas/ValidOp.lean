/-
The validity condition on operations that the properties quote, shared by the theorems about the
implementation model and about the reference engine.
-/
import Bourse.Model.Ops

namespace Bourse

/-- The validity conditions quoted in the properties that matter for the invariant: order and
modify volumes are at least 1, prices fit in 32 bits (they are `u32` in the Rust). (Unknown ids and
`u32` overflow are faults of the model.) -/
def ValidOp : Op → Prop
  | .create _ vol _ p => 0 < vol ∧ ∀ q, p = some q → q ≤ MAXP
  | .cap _ vol _ p => 0 < vol ∧ ∀ q, p = some q → q ≤ MAXP
  | .modify _ np nv => (∀ v, nv = some v → 0 < v) ∧ ∀ q, np = some q → q ≤ MAXP
  | .ev (.modify _ np nv) => (∀ v, nv = some v → 0 < v) ∧ ∀ q, np = some q → q ≤ MAXP
  | _ => True

/-- `ValidOp` can be evaluated, like `Feasible`: the examples check their histories by `decide`. -/
instance : DecidablePred ValidOp := fun op => by
  have opt : ∀ (p : Option Nat) (P : Nat → Prop) [DecidablePred P], Decidable (∀ q, p = some q → P q)
    | none, _, _ => isTrue nofun
    | some a, P, _ => decidable_of_iff (P a) ⟨fun h _ e => Option.some.inj e ▸ h, fun h => h a rfl⟩
  unfold ValidOp
  split <;> infer_instance

end Bourse

/-
The book invariant `Inv`, the match-loop invariant `LoopInv` (the aggressor is out of the book),
their common table half `RowsOk` (kept by rewriting a row, `.set`, and by appending one, `.append`),
and their preservation by one fill and by the loop.
-/
import Bourse.Lemmas.SideInv
import Bourse.Lemmas.StepFrame

namespace Bourse

structure Inv (b : Book) : Prop where
  bid : SideInv b.orders .bid b.bid b.stamp
  ask : SideInv b.orders .ask b.ask b.stamp
  /-- every Active order is queued on its side under its stored key -/
  act : ∀ (id : Nat) (e : Entry), b.orders[id]? = some e → e.order.status = .active →
          ((e.key.pk, e.key.st), id) ∈ (b.side e.order.side).orders
  ids : ∀ (id : Nat) (e : Entry), b.orders[id]? = some e → e.order.id = id
  /-- a created, not yet placed order carries the price key of its own price and a positive volume -/
  newok : ∀ (id : Nat) (e : Entry), b.orders[id]? = some e → e.order.status = .new →
            e.key.pk = priceKey e.order.side e.order.price ∧ 0 < e.order.vol ∧ e.order.price ≤ MAXP
  nofault : b.fault = false

/-- The invariant while order `a` is being matched: `a` is in neither queue and its table entry
may be stale. -/
structure LoopInv (b : Book) (a : Nat) : Prop where
  bid : SideInv b.orders .bid b.bid b.stamp
  ask : SideInv b.orders .ask b.ask b.stamp
  act : ∀ (id : Nat) (e : Entry), id ≠ a → b.orders[id]? = some e → e.order.status = .active →
          ((e.key.pk, e.key.st), id) ∈ (b.side e.order.side).orders
  out : ∀ sd k, (k, a) ∉ (b.side sd).orders
  ids : ∀ (id : Nat) (e : Entry), b.orders[id]? = some e → e.order.id = id
  newok : ∀ (id : Nat) (e : Entry), id ≠ a → b.orders[id]? = some e → e.order.status = .new →
            e.key.pk = priceKey e.order.side e.order.price ∧ 0 < e.order.vol ∧ e.order.price ≤ MAXP
  alt : a < b.orders.length
  nofault : b.fault = false

theorem Inv.side {b : Book} (h : Inv b) (sd : Side) : SideInv b.orders sd (b.side sd) b.stamp := by
  cases sd; exact h.bid; exact h.ask

theorem LoopInv.side {b : Book} {a : Nat} (h : LoopInv b a) (sd : Side) : SideInv b.orders sd (b.side sd) b.stamp := by
  cases sd; exact h.bid; exact h.ask

theorem Inv.notFaulted {b : Book} (h : Inv b) : b.faulted = false :=
  Book.faulted_eq_false.mpr ⟨h.nofault, fun sd => (h.side sd).nofault⟩

theorem LoopInv.notFaulted {b : Book} {a : Nat} (h : LoopInv b a) : b.faulted = false :=
  Book.faulted_eq_false.mpr ⟨h.nofault, fun sd => (h.side sd).nofault⟩

/-- The operations on the book as a whole — clock, trading switch, counter reset — change no field
that `Inv` reads (table, sides, stamp counter, fault flag). -/
theorem Inv.admin {b : Book} (h : Inv b) {op : Op} (ha : op.Admin) : Inv (b.step op).1 := by
  cases ha with
  | trading on => cases on <;> exact ⟨h.bid, h.ask, h.act, h.ids, h.newok, h.nofault⟩
  | _ => exact ⟨h.bid, h.ask, h.act, h.ids, h.newok, h.nofault⟩

theorem inv_new (t0 tick : Nat) (trading : Bool) (ht : 0 < tick) : Inv (Book.new t0 tick trading) where
  bid := sideInv_empty _ _ _
  ask := sideInv_empty _ _ _
  act := by intro id e h; simp [Book.new] at h
  ids := by intro id e h; simp [Book.new] at h
  newok := by intro id e h; simp [Book.new] at h
  nofault := by simp [Book.new]; omega

/-- What the invariant says of an Active table entry: where it is queued, and that it is a proper order. -/
structure ActiveRow (b : Book) (id : Nat) (e : Entry) : Prop where
  keySide : e.key.side = e.order.side
  mem : ((e.key.pk, e.key.st), id) ∈ (b.side e.order.side).orders
  vol_pos : 0 < e.order.vol
  price_le : e.order.price ≤ MAXP

theorem Inv.active_key {b : Book} (h : Inv b) {id : Nat} {e : Entry} (he : b.orders[id]? = some e)
    (hact : e.order.status = .active) : ActiveRow b id e := by
  have hm := h.act id e he hact
  have hq := (h.side e.order.side).queued hm he
  exact ⟨by rw [hq.key], hm, hq.vol_pos, hq.price_le⟩

theorem Inv.not_queued {b : Book} (h : Inv b) {a : Nat} {e : Entry} (he : b.orders[a]? = some e)
    (hna : e.order.status ≠ .active) : ∀ sd k, (k, a) ∉ (b.side sd).orders :=
  fun sd _ hm => hna ((h.side sd).queued hm he).status

theorem Inv.toLoop {b : Book} (h : Inv b) {a : Nat} {e : Entry} (he : b.orders[a]? = some e)
    (hna : e.order.status ≠ .active) : LoopInv b a where
  bid := h.bid
  ask := h.ask
  act := fun id e' _ h1 h2 => h.act id e' h1 h2
  out := h.not_queued he hna
  ids := h.ids
  newok := fun id e' _ h1 h2 => h.newok id e' h1 h2
  alt := (List.getElem?_eq_some_iff.mp he).1
  nofault := h.nofault

/-- What `Inv` and `LoopInv` say of row `id` holding `e`: it carries its own index and, unless `id`
is in `hole` (the aggressor being matched), it is tied to the queues — Active means queued under its
key, New means ready to be placed. -/
structure RowOk (b : Book) (hole : Nat → Prop) (id : Nat) (e : Entry) : Prop where
  ident : e.order.id = id
  tied : ¬ hole id →
    (e.order.status = .active → ((e.key.pk, e.key.st), id) ∈ (b.side e.order.side).orders) ∧
    (e.order.status = .new →
      e.key.pk = priceKey e.order.side e.order.price ∧ 0 < e.order.vol ∧ e.order.price ≤ MAXP)

/-- The table half of `Inv` (`hole` empty) and of `LoopInv` (`hole = {a}`). -/
def RowsOk (b : Book) (hole : Nat → Prop) : Prop :=
  ∀ (id : Nat) (e : Entry), b.orders[id]? = some e → RowOk b hole id e

theorem Inv.rows {b : Book} (h : Inv b) : RowsOk b (fun _ => False) :=
  fun id e he => ⟨h.ids id e he, fun _ => ⟨h.act id e he, h.newok id e he⟩⟩

theorem LoopInv.rows {b : Book} {a : Nat} (h : LoopInv b a) : RowsOk b (· = a) :=
  fun id e he => ⟨h.ids id e he, fun hn => ⟨h.act id e hn he, h.newok id e hn he⟩⟩

theorem Inv.of_rows {b : Book} (hs : ∀ sd, SideInv b.orders sd (b.side sd) b.stamp)
    (hr : RowsOk b (fun _ => False)) (hnf : b.fault = false) : Inv b where
  bid := hs .bid
  ask := hs .ask
  act := fun id e he => ((hr id e he).tied not_false).1
  ids := fun id e he => (hr id e he).ident
  newok := fun id e he => ((hr id e he).tied not_false).2
  nofault := hnf

theorem LoopInv.of_rows {b : Book} {a : Nat} (hs : ∀ sd, SideInv b.orders sd (b.side sd) b.stamp)
    (hr : RowsOk b (· = a)) (hout : ∀ sd k, (k, a) ∉ (b.side sd).orders) (halt : a < b.orders.length)
    (hnf : b.fault = false) : LoopInv b a where
  bid := hs .bid
  ask := hs .ask
  act := fun id e hn he => ((hr id e he).tied hn).1
  out := hout
  ids := fun id e he => (hr id e he).ident
  newok := fun id e hn he => ((hr id e he).tied hn).2
  alt := halt
  nofault := hnf

/-- Rewriting row `id` (and changing the queues so that every other id stays where it was). The
hole may move: `hh` says that away from `id` it only grows. -/
theorem RowsOk.set {b b' : Book} {hole hole' : Nat → Prop} (h : RowsOk b hole) {id : Nat} {e' : Entry}
    (hid : id < b.orders.length) (hords : b'.orders = b.orders.set id e')
    (hq : ∀ sd k j, j ≠ id → (k, j) ∈ (b.side sd).orders → (k, j) ∈ (b'.side sd).orders)
    (hh : ∀ j, j ≠ id → hole j → hole' j) (hrow : RowOk b' hole' id e') : RowsOk b' hole' := by
  intro j ej hej
  rw [hords, List.getElem?_set] at hej
  by_cases hji : id = j
  · subst hji
    rw [if_pos rfl, if_pos hid] at hej
    cases hej; exact hrow
  · rw [if_neg hji] at hej
    have hji' : j ≠ id := fun hc => hji hc.symm
    have hr := h j ej hej
    exact ⟨hr.ident, fun hn => ⟨fun ha => hq _ _ _ hji' ((hr.tied fun hc => hn (hh j hji' hc)).1 ha),
      (hr.tied fun hc => hn (hh j hji' hc)).2⟩⟩

theorem RowsOk.append {b b' : Book} {hole : Nat → Prop} (h : RowsOk b hole) {x : Entry}
    (hords : b'.orders = b.orders ++ [x]) (hq : ∀ sd, (b'.side sd).orders = (b.side sd).orders)
    (hrow : RowOk b' hole b.orders.length x) : RowsOk b' hole := by
  intro j ej hej
  rw [hords, List.getElem?_append] at hej
  split at hej
  · have hr := h j ej hej
    exact ⟨hr.ident, fun hn => ⟨fun ha => by rw [hq]; exact (hr.tied hn).1 ha, (hr.tied hn).2⟩⟩
  · rename_i hlt
    have hj : j = b.orders.length := by
      have := (List.getElem?_eq_some_iff.mp hej).1
      simp at this; omega
    subst hj
    simp at hej; subst hej; exact hrow

theorem LoopInv.close_inactive {b : Book} {a : Nat} (h : LoopInv b a) (e : Entry)
    (hna : e.order.status ≠ .active) (hnn : e.order.status ≠ .new) (hid : e.order.id = a) :
    Inv { b with orders := b.orders.set a e } :=
  Inv.of_rows (fun sd => by cases sd <;> exact (h.side _).frame a e (h.out _) (Nat.le_refl _))
    (h.rows.set (b' := { b with orders := b.orders.set a e }) h.alt rfl
      (fun sd _ _ _ hj => by cases sd <;> exact hj) (fun _ hj hc => hj hc)
      ⟨hid, fun _ => ⟨fun hc => absurd hc hna, fun hc => absurd hc hnn⟩⟩)
    h.nofault

theorem bestOrderIdx_head {s : SideS} {id : Nat} (h : s.bestOrderIdx = some id) :
    ∃ k tl, s.orders = (k, id) :: tl := by
  cases ho : s.orders with
  | nil => rw [SideS.bestOrderIdx, ho] at h; cases h
  | cons hd tl =>
    rw [SideS.bestOrderIdx, ho] at h
    exact ⟨hd.1, tl, by rw [← Option.some.inj h]⟩

theorem bestKey_cons {s : SideS} {hd : (Nat × Nat) × Nat} {tl : SMap (Nat × Nat) Nat} (hq : s.orders = hd :: tl) :
    s.bestKey = hd.1.1 := by
  simp [SideS.bestKey, SMap.first?, hq]

theorem bestPrice_of_key {sd : Side} {s : SideS} {p : Nat} (hk : s.bestKey = priceKey sd p) (hp : p ≤ MAXP) :
    bestPrice sd s = p := by
  cases sd <;> simp only [bestPrice, hk, priceKey] <;> omega

theorem bestOrderIdx_mem {s : SideS} {id : Nat} (h : s.bestOrderIdx = some id) : ∃ k, (k, id) ∈ s.orders := by
  obtain ⟨k, tl, ho⟩ := bestOrderIdx_head h
  exact ⟨k, by rw [ho]; exact List.mem_cons_self⟩

/-- What the loop invariant says of the order at the head of the opposite queue. -/
theorem LoopInv.head_passive {b : Book} {a : Nat} (h : LoopInv b a) {sd : Side} {id : Nat} {m : Entry}
    (hh : (b.side sd.opp).bestOrderIdx = some id) (hm : b.orders[id]? = some m) :
    ((m.key.pk, m.key.st), id) ∈ (b.side sd.opp).orders ∧ m.order.status = .active ∧
    m.order.side = sd.opp ∧ id ≠ a := by
  obtain ⟨k, hmem⟩ := bestOrderIdx_mem hh
  have hq := (h.side sd.opp).queued hmem hm
  exact ⟨by rw [hq.key]; exact hmem, hq.status, hq.side, fun hc => h.out sd.opp k (hc ▸ hmem)⟩

/-- **One fill keeps both side invariants**, whatever the traded-volume counter does: no fault site
of `remove_order` / `remove_vol` fires. -/
theorem LoopInv.fillStep_sides {b : Book} {a : Nat} (h : LoopInv b a) (sd : Side) (e : Entry) (id : Nat) (m : Entry)
    (hh : (b.side sd.opp).bestOrderIdx = some id) (hm : b.orders[id]? = some m) (sd' : Side) :
    SideInv (Book.fillStep sd b e id m).1.orders sd' ((Book.fillStep sd b e id m).1.side sd') b.stamp := by
  obtain ⟨hkk, hact, -, -⟩ := h.head_passive hh hm
  have hopp := h.side sd.opp
  -- the aggressor's own side: the table changed at `id`, which is queued on the other side
  have hown : SideInv (Book.fillStep sd b e id m).1.orders sd ((Book.fillStep sd b e id m).1.side sd) b.stamp := by
    rw [Book.fillStep_side, Book.fillStep_orders]
    exact (h.side sd).frame id _ (hopp.not_mem_opp (by rw [Book.opp_opp]; exact h.side sd) hkk) (Nat.le_refl _)
  refine sd.forall_of (P := fun s => SideInv (Book.fillStep sd b e id m).1.orders s
    ((Book.fillStep sd b e id m).1.side s) b.stamp) hown ?_ sd'
  -- the opposite side: `remove` when the passive order is filled, `reduce` when it is not
  rcases Book.fillStep_cases sd b e id (m := m) (by rw [hact]; simp) with ⟨-, hs, ho⟩ | ⟨hlt, hs, ho⟩
  · rw [ho, hs, ← volOf_of_get hm]
    exact hopp.remove _ _ id _ hkk
  · rw [ho, hs]
    exact hopp.reduce _ _ id _ m _ hkk hm hlt ⟨hact, rfl, rfl, rfl, rfl⟩

/-- **One fill**, under the loop invariant: everything of `LoopInv` but the book's own fault flag
holds again; that flag records only whether the traded-volume counter overflowed. -/
theorem LoopInv.fillStep_of_counter {b : Book} {a : Nat} (h : LoopInv b a) (sd : Side) (e : Entry) (id : Nat) (m : Entry)
    (hh : (b.side sd.opp).bestOrderIdx = some id) (hm : b.orders[id]? = some m)
    (hnf : (Book.fillStep sd b e id m).1.fault = false) :
    LoopInv (Book.fillStep sd b e id m).1 a := by
  obtain ⟨hkk, hact, hside, -⟩ := h.head_passive hh hm
  have hso := (h.side sd.opp).so
  have hidlt : id < b.orders.length := (List.getElem?_eq_some_iff.mp hm).1
  have hsides := fun sd' => Book.fillStep_stamp sd b e id m ▸ h.fillStep_sides sd e id m hh hm sd'
  have halt : a < (Book.fillStep sd b e id m).1.orders.length := by
    rw [Book.fillStep_orders, List.length_set]; exact h.alt
  rcases Book.fillStep_cases sd b e id (m := m) (by rw [hact]; simp) with ⟨-, hs, ho⟩ | ⟨-, hs, ho⟩
  -- filled: the passive order leaves its queue, every other id stays; the row written (`ho`) says
  -- Filled, so it is neither Active nor New
  · refine LoopInv.of_rows hsides (h.rows.set hidlt ho ?_ (fun _ _ hj => hj)
      ⟨h.ids id m hm, fun _ => ⟨nofun, nofun⟩⟩) ?_ halt hnf
    · refine sd.forall_of (fun k' j _ hj => by rw [Book.fillStep_side]; exact hj) (fun k' j hji hj => ?_)
      rw [hs, removeOrder_orders]
      exact (h.side sd.opp).mem_erase_of_ne hkk hj hji
    · refine sd.forall_of (fun k' => by rw [Book.fillStep_side]; exact h.out sd k') (fun k' hk' => ?_)
      rw [hs, removeOrder_orders] at hk'
      exact h.out _ k' ((SMap.mem_erase_iff hso).mp hk').1
  -- reduced in place: both queues are as they were
  · have hq : ∀ sd', ((Book.fillStep sd b e id m).1.side sd').orders = (b.side sd').orders :=
      sd.forall_of (by rw [Book.fillStep_side]) (by rw [hs, removeVol_orders])
    refine LoopInv.of_rows hsides (h.rows.set hidlt ho (fun sd' k' j _ hj => by rw [hq]; exact hj)
      (fun _ _ hj => hj) ⟨h.ids id m hm, fun _ => ⟨fun _ => ?_, fun hc => ?_⟩⟩)
      (fun sd' k' => by rw [hq]; exact h.out sd' k') halt hnf
    · show _ ∈ ((Book.fillStep sd b e id m).1.side m.order.side).orders
      rw [hq, hside]; exact hkk
    · rw [show _ = Status.active from hact] at hc; cases hc

/-- Of the flags in `hnf` only the book's own matters, and it records a counter overflow: the side
flags stay clear by `fillStep_sides`. -/
theorem LoopInv.fillStep {b : Book} {a : Nat} (h : LoopInv b a) (sd : Side) (e : Entry) (id : Nat) (m : Entry)
    (hh : (b.side sd.opp).bestOrderIdx = some id) (hm : b.orders[id]? = some m) (hv : 0 < e.order.vol)
    (hnf : (Book.fillStep sd b e id m).1.faulted = false) :
    LoopInv (Book.fillStep sd b e id m).1 a := by
  refine h.fillStep_of_counter sd e id m hh hm ?_
  simp only [Book.faulted, Bool.or_eq_false_iff] at hnf
  exact hnf.1.1

/-- **Induction along a match loop that ends unfaulted**, with the loop invariant at hand: faults are
sticky, so every state on the way was unfaulted and hence in `LoopInv`. As with `matchLoop_induct`, a
relation to the state before the loop is had by fixing that state in `P`. -/
theorem LoopInv.matchLoop_induct {a : Nat} (sd : Side) {P : Book → Entry → Prop}
    (fill : ∀ b e id m, LoopInv b a → P b e → Book.Fills sd b e id m → LoopInv (Book.fillStep sd b e id m).1 a →
      P (Book.fillStep sd b e id m).1 (Book.fillStep sd b e id m).2)
    {b : Book} {e : Entry} (h : LoopInv b a) (h0 : P b e) (fuel : Nat)
    (hnf : (Book.matchLoop sd fuel b e).1.faulted = false) :
    LoopInv (Book.matchLoop sd fuel b e).1 a ∧ P (Book.matchLoop sd fuel b e).1 (Book.matchLoop sd fuel b e).2 := by
  refine Book.matchLoop_induct sd (P := fun b e => b.faulted = false → LoopInv b a ∧ P b e)
    (fun _ _ _ hc => by simp [Book.faulted] at hc) ?_ fuel b e (fun _ => ⟨h, h0⟩) hnf
  intro b e id m ih hf hnf'
  have hb : b.faulted = false := (Book.fillStep_frame sd b e id m).unfaulted hnf'
  have hl := (ih hb).1.fillStep sd e id m hf.head hf.get hf.vol hnf'
  exact ⟨hl, fill b e id m (ih hb).1 (ih hb).2 hf hl⟩

theorem LoopInv.matchLoop {b : Book} {a : Nat} (h : LoopInv b a) (sd : Side) (fuel : Nat) (e : Entry)
    (hnf : (Book.matchLoop sd fuel b e).1.faulted = false) : LoopInv (Book.matchLoop sd fuel b e).1 a :=
  (LoopInv.matchLoop_induct sd (P := fun _ _ => True) (fun _ _ _ _ _ _ _ _ => trivial) h trivial fuel hnf).1

/-- What the loop does to the aggressor's copy: it stays Active with positive volume, or ends Filled. -/
theorem matchLoop_agg_status (sd : Side) (fuel : Nat) (b : Book) (e : Entry)
    (hs : e.order.status = .active) (hv : 0 < e.order.vol) :
    ((Book.matchLoop sd fuel b e).2.order.status = .active ∧ 0 < (Book.matchLoop sd fuel b e).2.order.vol) ∨
    (Book.matchLoop sd fuel b e).2.order.status = .filled := by
  refine (Book.matchLoop_induct sd (P := fun _ e => (e.order.status = .active ∧ 0 < e.order.vol) ∨
    (e.order.status = .filled ∧ e.order.vol = 0)) (fun _ _ h => h) ?_ fuel b e (.inl ⟨hs, hv⟩)).imp_right And.left
  intro b e id m h hf
  rcases h with h | h
  · rcases Book.matchOrders_aggressor_cases b.t e.order m.order with ⟨-, ha⟩ | ⟨hlt, ha⟩
    · exact .inr (by rw [Book.fillStep_agg, ha]; exact ⟨rfl, rfl⟩)
    · exact .inl (by rw [Book.fillStep_agg, ha]; exact ⟨h.1, Nat.sub_pos_of_lt hlt⟩)
  · exact absurd hf.vol (by rw [h.2]; exact Nat.lt_irrefl 0)

end Bourse

/-
One operation of the reference engine: the two state transformers every arrival is made of
(`unqueue`, `enterAt`), the match phase of `enter` under a name, and `step_case`, the list of shapes
`(Ref.step s op).1` can take. A property of operations is proved by `cases` on `step_case s op`:
nothing happens; a record is appended; cancel; reduce; an arrival through `enter` (three forms).

Namespaces in this family of files: MatchLoop, RefStepCases, RefMatch, RefGreedy, RestGrid and
TradeRoles are written inside `Bourse.Ref` (generic list facts, `sameIdent`, `priceOf_*`, `setQueue_*`
before it is opened: `Bourse`); RefArrival, RefLedger, RefLedgerStep, RefTimes, RefLifecycle and
Uncrossed inside `Bourse` — their predicates (`QWf`, `StepT`, `StepLedger`, `RUncrossed` ...) and their
lemmas about `Ref`'s functions alike (`Bourse.matchQ_ledger`, `Bourse.enter_evo`) — so there a fact
about `Ref.StepCase` is spelt `Ref.StepCase.times`.
-/
import Bourse.Lemmas.MatchLoop
import Bourse.Lemmas.Frame

namespace Bourse

theorem getElem?_set_none {α : Type} (l : List α) (i j : Nat) (x : α) (h : l[j]? = none) : (l.set i x)[j]? = none := by
  rw [List.getElem?_eq_none_iff] at h ⊢; simpa using h

theorem getElem?_set_rel {α : Type} {R : α → α → Prop} (hrefl : ∀ a, R a a) {l : List α} {i0 : Nat} {x0 x : α}
    (h0 : l[i0]? = some x0) (hx : R x0 x) {i : Nat} {a : α} (h : l[i]? = some a) :
    ∃ a', (l.set i0 x)[i]? = some a' ∧ R a a' := by
  rw [getElem?_set_of_some h0]
  split
  · subst_vars; rw [h0] at h; cases h; exact ⟨x, rfl, hx⟩
  · exact ⟨a, h, hrefl a⟩

theorem getElem?_append_some {α : Type} {l : List α} {i : Nat} {o : α} (h : l[i]? = some o) (x : α) :
    (l ++ [x])[i]? = some o :=
  (List.getElem?_append_left (List.getElem?_eq_some_iff.mp h).1).trans h

theorem getElem?_append_one {α : Type} {l : List α} {x o : α} {i : Nat} (h : (l ++ [x])[i]? = some o) :
    l[i]? = some o ∨ l[i]? = none ∧ i = l.length ∧ o = x := by
  rcases Nat.lt_or_ge i l.length with hlt | hge
  · exact .inl ((List.getElem?_append_left hlt).symm.trans h)
  · have hi : i = l.length := by
      have := (List.getElem?_eq_some_iff.mp h).1
      simp only [List.length_append, List.length_singleton] at this
      omega
    subst hi
    rw [List.getElem?_concat_length] at h
    exact .inr ⟨List.getElem?_eq_none_iff.mpr hge, rfl, (Option.some.inj h).symm⟩

theorem side_ne_opp (sd : Side) : sd ≠ sd.opp := (Book.opp_ne sd).symm

section setQueue
variable (s : Ref.RState) (sd : Side) (q : List Nat)
@[simp] theorem setQueue_orders : (s.setQueue sd q).orders = s.orders := by cases sd <;> rfl
@[simp] theorem setQueue_trades : (s.setQueue sd q).trades = s.trades := by cases sd <;> rfl
@[simp] theorem setQueue_tradeVol : (s.setQueue sd q).tradeVol = s.tradeVol := by cases sd <;> rfl
@[simp] theorem setQueue_t : (s.setQueue sd q).t = s.t := by cases sd <;> rfl
@[simp] theorem setQueue_tick : (s.setQueue sd q).tick = s.tick := by cases sd <;> rfl
@[simp] theorem setQueue_trading : (s.setQueue sd q).trading = s.trading := by cases sd <;> rfl

theorem queue_setQueue (sd' : Side) : (s.setQueue sd q).queue sd' = if sd' = sd then q else s.queue sd' := by
  cases sd <;> cases sd' <;> simp [Ref.RState.setQueue, Ref.RState.queue]
end setQueue

namespace Ref

/-- `s` with `id` taken out of the queue of side `sd`. -/
def unqueue (s : RState) (sd : Side) (id : Nat) : RState := s.setQueue sd ((s.queue sd).erase id)

/-- `enter`, with the arriving order's record written back at `id`. -/
def enterAt (s : RState) (id : Nat) (agg : Order) (market : Bool) : RState :=
  { (enter s agg market).1 with orders := (enter s agg market).1.orders.set id (enter s agg market).2 }

section unqueue
variable (s : RState) (sd : Side) (id : Nat)
@[simp] theorem unqueue_orders : (unqueue s sd id).orders = s.orders := setQueue_orders ..
@[simp] theorem unqueue_trades : (unqueue s sd id).trades = s.trades := setQueue_trades ..
@[simp] theorem unqueue_t : (unqueue s sd id).t = s.t := setQueue_t ..
@[simp] theorem unqueue_tick : (unqueue s sd id).tick = s.tick := setQueue_tick ..
@[simp] theorem unqueue_trading : (unqueue s sd id).trading = s.trading := setQueue_trading ..

theorem unqueue_queue (sd' : Side) :
    (unqueue s sd id).queue sd' = if sd' = sd then (s.queue sd).erase id else s.queue sd' :=
  queue_setQueue ..
end unqueue

theorem unqueue_sublist {s : RState} {sd : Side} {id : Nat} (sd' : Side) :
    ((unqueue s sd id).queue sd').Sublist (s.queue sd') := by
  rw [unqueue_queue]
  split
  · subst_vars; exact List.erase_sublist
  · exact List.Sublist.refl _

/-- The state the match loop of `enter` leaves: its result `r` written over `s`. -/
def afterLoop (s : RState) (sd : Side) (r : List Nat × MatchSt) : RState :=
  { s.setQueue sd.opp r.1 with orders := r.2.orders, trades := r.2.trades, tradeVol := r.2.tradeVol }

theorem afterLoop_queue (s : RState) (sd : Side) (r : List Nat × MatchSt) (sd' : Side) :
    (afterLoop s sd r).queue sd' = if sd' = sd.opp then r.1 else s.queue sd' := by
  cases sd <;> cases sd' <;> simp [afterLoop, RState.setQueue, RState.queue, Side.opp]

/-- The first half of `enter`: the match loop against the opposite queue while trading is enabled,
nothing otherwise. (`enter_eq`: the second half decides what becomes of the remainder.) -/
def matchPhase (s : RState) (agg : Order) : RState × Order :=
  if s.trading then
    let r := matchQ s.t (s.queue agg.side.opp) ⟨s.orders, s.trades, s.tradeVol, agg⟩
    (afterLoop s agg.side r, r.2.agg)
  else (s, agg)

theorem matchPhase_on {s : RState} {agg : Order} (ht : s.trading = true) :
    matchPhase s agg =
      (afterLoop s agg.side (matchQ s.t (s.queue agg.side.opp) ⟨s.orders, s.trades, s.tradeVol, agg⟩),
       (matchQ s.t (s.queue agg.side.opp) ⟨s.orders, s.trades, s.tradeVol, agg⟩).2.agg) :=
  (show matchPhase s agg = if s.trading = true then _ else (s, agg) from rfl).trans (if_pos ht)

theorem matchPhase_off {s : RState} {agg : Order} (ht : s.trading = false) : matchPhase s agg = (s, agg) := by
  simp [matchPhase, ht]

theorem enter_eq (s : RState) (agg : Order) (market : Bool) : enter s agg market =
    if market && !s.trading then (s, { agg with status := .rejected, endt := s.t })
    else if (matchPhase s agg).2.status = .filled then matchPhase s agg
    else if market then
      ((matchPhase s agg).1, { (matchPhase s agg).2 with status := .cancelled, endt := (matchPhase s agg).1.t })
    else ((matchPhase s agg).1.setQueue agg.side
            (enqueue (matchPhase s agg).1.orders agg.side ((matchPhase s agg).1.queue agg.side)
              (matchPhase s agg).2.id (matchPhase s agg).2.price), (matchPhase s agg).2) :=
  rfl

theorem matchPhase_fields (s : RState) (agg : Order) : (matchPhase s agg).1.t = s.t ∧
    (matchPhase s agg).1.tick = s.tick ∧ (matchPhase s agg).1.trading = s.trading := by
  unfold matchPhase
  split
  · exact ⟨setQueue_t .., setQueue_tick .., setQueue_trading ..⟩
  · exact ⟨rfl, rfl, rfl⟩

theorem matchPhase_rel {s : RState} {P : Order → Order → Prop} (hP : FillRel s.t P) (agg : Order) :
    (∀ (id : Nat) (o : Order), s.orders[id]? = some o →
      ∃ o', (matchPhase s agg).1.orders[id]? = some o' ∧ P o o') ∧
    P agg (matchPhase s agg).2 ∧
    (∀ (id : Nat), id ∉ s.queue agg.side.opp → (matchPhase s agg).1.orders[id]? = s.orders[id]?) ∧
    (matchPhase s agg).1.orders.length = s.orders.length := by
  unfold matchPhase
  split
  · obtain ⟨h1, h2, h3⟩ := matchQ_rel hP (s.queue agg.side.opp) ⟨s.orders, s.trades, s.tradeVol, agg⟩
    exact ⟨h1, h2, matchQ_frame _ _ _, h3⟩
  · exact ⟨fun _ o h => ⟨o, h, hP.refl o⟩, hP.refl _, fun _ _ => rfl, rfl⟩

theorem enter_fst (s : RState) (agg : Order) (market : Bool) :
    ∃ q, (enter s agg market).1 = (matchPhase s agg).1.setQueue agg.side q := by
  have same : ∀ x : RState, x = x.setQueue agg.side (x.queue agg.side) := fun x => by cases agg.side <;> rfl
  rw [enter_eq]
  by_cases h1 : (market && !s.trading) = true
  · rw [if_pos h1]
    simp only [Bool.and_eq_true, Bool.not_eq_eq_eq_not, Bool.not_true] at h1
    exact ⟨s.queue agg.side, by simpa [matchPhase, h1.2] using same s⟩
  · rw [if_neg h1]
    by_cases h2 : (matchPhase s agg).2.status = .filled
    · rw [if_pos h2]
      exact ⟨_, same _⟩
    · rw [if_neg h2]
      cases market with
      | true => exact ⟨_, same _⟩
      | false => exact ⟨_, rfl⟩

theorem enter_orders (s : RState) (agg : Order) (market : Bool) :
    (enter s agg market).1.orders = (matchPhase s agg).1.orders ∧
    (enter s agg market).1.trades = (matchPhase s agg).1.trades := by
  obtain ⟨q, h⟩ := enter_fst s agg market
  rw [h]
  exact ⟨setQueue_orders .., setQueue_trades ..⟩

theorem enter_length (s : RState) (agg : Order) (market : Bool) :
    (enter s agg market).1.orders.length = s.orders.length := by
  rw [(enter_orders s agg market).1]
  exact (matchPhase_rel (filled_fillRel s.t) agg).2.2.2

theorem enter_priceOf (s : RState) (agg : Order) (market : Bool) (k : Nat) :
    priceOf (enter s agg market).1.orders k = priceOf s.orders k := by
  rw [(enter_orders s agg market).1]
  obtain ⟨hrec, _, _, hlen⟩ := matchPhase_rel (filled_fillRel s.t) agg
  cases ho : s.orders[k]? with
  | some o =>
    obtain ⟨o', ho', hf⟩ := hrec k o ho
    simp [priceOf, ho, ho', hf.1.price]
  | none =>
    have : (matchPhase s agg).1.orders[k]? = none := by
      rw [List.getElem?_eq_none_iff] at ho ⊢
      rw [hlen]; exact ho
    simp [priceOf, ho, this]

theorem enterAt_get {s : RState} {id0 : Nat} (h : id0 < s.orders.length) (agg : Order) (market : Bool) (i : Nat) :
    (enterAt s id0 agg market).orders[i]? =
      if i = id0 then some (enter s agg market).2 else (enter s agg market).1.orders[i]? :=
  getElem?_set_of_some (List.getElem?_eq_getElem (enter_length s agg market ▸ h)) _ i

theorem enterAt_none {s : RState} {id : Nat} (hn : s.orders[id]? = none) (id0 : Nat) (agg : Order) (market : Bool) :
    (enterAt s id0 agg market).orders[id]? = none := by
  rw [List.getElem?_eq_none_iff] at hn ⊢
  simpa [enterAt, enter_length] using hn

theorem matchPhase_trades (s : RState) (agg : Order) :
    (matchPhase s agg).1.trades = if s.trading then
      (matchQ s.t (s.queue agg.side.opp) ⟨s.orders, s.trades, s.tradeVol, agg⟩).2.trades else s.trades := by
  unfold matchPhase; split <;> rfl

/-- **`enter` while trading is enabled**, in terms of what its match loop returns. The result is a
variable `r` tied by `hr` (use `hr := rfl`) so that the statement mentions the loop once and a user
can `generalize` it away. Filled — nothing more; a market order — the remainder is discarded; a limit order — it
is queued on its own side. -/
theorem enter_of_loop {s : RState} {agg : Order} {market : Bool} {r : List Nat × MatchSt} (ht : s.trading = true)
    (hr : matchQ s.t (s.queue agg.side.opp) ⟨s.orders, s.trades, s.tradeVol, agg⟩ = r) :
    enter s agg market =
      if r.2.agg.status = .filled then (afterLoop s agg.side r, r.2.agg)
      else if market then (afterLoop s agg.side r, { r.2.agg with status := .cancelled, endt := s.t })
      else ((afterLoop s agg.side r).setQueue agg.side
              (enqueue r.2.orders agg.side (s.queue agg.side) r.2.agg.id r.2.agg.price), r.2.agg) := by
  have hmp : matchPhase s agg = (afterLoop s agg.side r, r.2.agg) := hr ▸ matchPhase_on ht
  have hq : (afterLoop s agg.side r).queue agg.side = s.queue agg.side := by
    rw [afterLoop_queue, if_neg (side_ne_opp _)]
  rw [enter_eq, hmp, hq]
  simp only [ht, Bool.not_true, Bool.and_false, Bool.false_eq_true, if_false]
  have ht1 : (afterLoop s agg.side r).t = s.t := setQueue_t ..
  rw [ht1]
  rfl

theorem enter_queues {s : RState} {agg : Order} {market : Bool} {r : List Nat × MatchSt} (ht : s.trading = true)
    (hr : matchQ s.t (s.queue agg.side.opp) ⟨s.orders, s.trades, s.tradeVol, agg⟩ = r) :
    (enter s agg market).1.queue agg.side.opp = r.1 ∧
    (enter s agg market).1.queue agg.side =
      if r.2.agg.status = .filled ∨ market = true then s.queue agg.side
      else enqueue r.2.orders agg.side (s.queue agg.side) r.2.agg.id r.2.agg.price := by
  have hne : agg.side ≠ agg.side.opp := side_ne_opp _
  rw [enter_of_loop ht hr]
  by_cases hf : r.2.agg.status = .filled
  · simp [hf, afterLoop_queue, hne]
  · cases market with
    | true => simp [hf, afterLoop_queue, hne]
    | false => simp [hf, afterLoop_queue, queue_setQueue, hne.symm]

/-- The record `enter` returns: the match phase's — always so for a limit order, and for a market
order that was filled — or else that record Cancelled (remainder discarded) or Rejected, ended now. -/
theorem enter_snd (s : RState) (agg : Order) (market : Bool) :
    (enter s agg market).2 = (matchPhase s agg).2 ∧ (market = false ∨ (matchPhase s agg).2.status = .filled) ∨
    market = true ∧ ∃ st, (st = .cancelled ∨ st = .rejected) ∧
      (enter s agg market).2 = { (matchPhase s agg).2 with status := st, endt := s.t } := by
  rw [enter_eq]
  by_cases h1 : (market && !s.trading) = true
  · rw [if_pos h1]
    simp only [Bool.and_eq_true, Bool.not_eq_eq_eq_not, Bool.not_true] at h1
    exact .inr ⟨h1.1, .rejected, .inr rfl, by rw [matchPhase_off h1.2]⟩
  · rw [if_neg h1]
    by_cases h2 : (matchPhase s agg).2.status = .filled
    · rw [if_pos h2]
      exact .inl ⟨rfl, .inr h2⟩
    · rw [if_neg h2]
      cases market with
      | true => exact .inr ⟨rfl, .cancelled, .inl rfl, by rw [if_pos rfl, (matchPhase_fields s agg).1]⟩
      | false => exact .inl ⟨rfl, .inl rfl⟩

theorem enter_snd_shape (s : RState) (agg : Order) (market : Bool) :
    ∃ st e, (enter s agg market).2 = { (matchPhase s agg).2 with status := st, endt := e } := by
  rcases enter_snd s agg market with ⟨h, _⟩ | ⟨_, st, _, h⟩
  · exact ⟨_, _, h⟩
  · exact ⟨st, s.t, h⟩

theorem enterAt_queue (s : RState) (id : Nat) (agg : Order) (market : Bool) (sd : Side) :
    (enterAt s id agg market).queue sd = (enter s agg market).1.queue sd := by
  cases sd <;> rfl

theorem enterAt_priceOf {s : RState} {id : Nat} (h : id < s.orders.length) (agg : Order) (market : Bool) (k : Nat) :
    priceOf (enterAt s id agg market).orders k = if k = id then agg.price else priceOf s.orders k := by
  unfold priceOf
  rw [enterAt_get h]
  split
  · obtain ⟨st, e, he⟩ := enter_snd_shape s agg market
    rw [he]
    exact (matchPhase_rel (filled_fillRel s.t) agg).2.1.1.price
  · exact enter_priceOf s agg market k

@[simp] theorem enter_t (s : RState) (agg : Order) (market : Bool) : (enter s agg market).1.t = s.t := by
  obtain ⟨q, h⟩ := enter_fst s agg market
  rw [h, setQueue_t, (matchPhase_fields s agg).1]

@[simp] theorem enter_tick (s : RState) (agg : Order) (market : Bool) : (enter s agg market).1.tick = s.tick := by
  obtain ⟨q, h⟩ := enter_fst s agg market
  rw [h, setQueue_tick, (matchPhase_fields s agg).2.1]

@[simp] theorem enter_trading (s : RState) (agg : Order) (market : Bool) :
    (enter s agg market).1.trading = s.trading := by
  obtain ⟨q, h⟩ := enter_fst s agg market
  rw [h, setQueue_trading, (matchPhase_fields s agg).2.2]

/-- The record `create` appends, and the state with it appended. -/
def newOrder (s : RState) (sd : Side) (vol tr : Nat) (p : Option Nat) : Order :=
  Book.mkOrder s.t sd vol tr p s.orders.length

def created (s : RState) (sd : Side) (vol tr : Nat) (p : Option Nat) : RState :=
  { s with orders := s.orders ++ [newOrder s sd vol tr p] }

theorem created_new (s : RState) (sd : Side) (vol tr : Nat) (p : Option Nat) :
    (created s sd vol tr p).orders[s.orders.length]? = some (newOrder s sd vol tr p) :=
  List.getElem?_concat_length

theorem place_new {s : RState} {id : Nat} {o : Order} (ho : s.orders[id]? = some o) (hn : o.status = .new) :
    place s id = enterAt s id { o with status := .active, arr := s.t } (Book.isMarket o) := by
  simp only [place, ho, hn]; rfl

theorem place_cases (s : RState) (id : Nat) : place s id = s ∨
    ∃ o, s.orders[id]? = some o ∧ o.status = .new ∧
      place s id = enterAt s id { o with status := .active, arr := s.t } (Book.isMarket o) := by
  cases ho : s.orders[id]? with
  | none => exact Or.inl (by simp [place, ho])
  | some o =>
    by_cases hn : o.status = .new
    · exact Or.inr ⟨o, rfl, hn, place_new ho hn⟩
    · exact Or.inl (by simp [place, ho, hn])

theorem cancel_cases (s : RState) (id : Nat) : cancel s id = s ∨
    ∃ o, s.orders[id]? = some o ∧ o.status = .active ∧
      cancel s id = { unqueue s o.side id with orders := s.orders.set id { o with status := .cancelled, endt := s.t } } := by
  unfold cancel
  split
  · exact Or.inl rfl
  · rename_i o ho
    split
    · exact Or.inr ⟨o, ho, ‹_›, rfl⟩
    · exact Or.inl rfl

theorem modify_reenter {s : RState} {id : Nat} {o : Order} {np nv : Option Nat} (ho : s.orders[id]? = some o)
    (ha : o.status = .active) (hg : Book.offGrid s.tick np = false) (hre : ¬ (np = none ∧ nv = none))
    (hnr : (np.isNone && decide (nv.getD o.vol < o.vol)) = false) :
    modify s id np nv =
      enterAt (unqueue s o.side id) id { o with vol := nv.getD o.vol, price := np.getD o.price } false := by
  unfold modify
  simp only [ho, hg, Bool.false_eq_true, ↓reduceIte, ha, ne_eq, not_true_eq_false]
  split
  · exact absurd ⟨rfl, rfl⟩ hre
  · rw [if_neg (by rw [hnr]; simp)]
    rfl

theorem modify_cases (s : RState) (id : Nat) (np nv : Option Nat) :
    (modify s id np nv = s ∧ ∀ o, s.orders[id]? = some o → o.status = .active → Book.offGrid s.tick np = false →
      nv.getD o.vol = o.vol) ∨
    ∃ o, s.orders[id]? = some o ∧ o.status = .active ∧ Book.offGrid s.tick np = false ∧
      ((∃ v, np = none ∧ nv = some v ∧ v < o.vol ∧
          modify s id np nv = { s with orders := s.orders.set id { o with vol := v } }) ∨
       modify s id np nv =
          enterAt (unqueue s o.side id) id { o with vol := nv.getD o.vol, price := np.getD o.price } false) := by
  cases ho : s.orders[id]? with
  | none => exact Or.inl ⟨by simp [modify, ho], fun _ h => by cases h⟩
  | some o =>
    cases hg : Book.offGrid s.tick np with
    | true => exact Or.inl ⟨by simp [modify, ho, hg], fun _ _ _ h => by cases h⟩
    | false =>
      by_cases ha : o.status = .active
      · cases np with
        | none =>
          cases nv with
          | none => exact Or.inl ⟨by simp [modify, ho, hg, ha], fun _ _ _ _ => rfl⟩
          | some v =>
            refine Or.inr ⟨o, rfl, ha, rfl, ?_⟩
            by_cases hlt : v < o.vol
            · exact Or.inl ⟨v, rfl, rfl, hlt, by simp [modify, ho, hg, ha, hlt]⟩
            · exact Or.inr (modify_reenter ho ha hg (by simp) (by simp [hlt]))
        | some p => exact Or.inr ⟨o, rfl, ha, rfl, Or.inr (modify_reenter ho ha hg (by simp) rfl)⟩
      · exact Or.inl ⟨by simp [modify, ho, hg, ha], fun o' h1 h2 => by cases h1; exact absurd h2 ha⟩

theorem create_cases (s : RState) (sd : Side) (vol tr : Nat) (p : Option Nat) :
    create s sd vol tr p = (s, .err (p.getD 0) s.tick) ∧ Book.offGrid s.tick p = true ∨
    create s sd vol tr p = (created s sd vol tr p, .ok s.orders.length) ∧ Book.offGrid s.tick p = false := by
  unfold create
  cases p with
  | none => exact Or.inr ⟨rfl, rfl⟩
  | some q =>
    simp only [Book.offGrid]
    split
    · exact Or.inl ⟨rfl, ‹_›⟩
    · exact Or.inr ⟨rfl, Bool.eq_false_iff.mpr ‹_›⟩

end Ref

/-- The volume a modify request explicitly gives the order it addresses. -/
def modifyVol (tick : Nat) (id : Nat) (np nv : Option Nat) (id' : Nat) (o : Order) : Nat :=
  if id' = id ∧ o.status = .active ∧ Book.offGrid tick np = false then nv.getD o.vol else o.vol

/-- The volume an operation explicitly gives an order: its own, unless the operation is an accepted
volume modification of that very order. -/
def volRequested (tick : Nat) : Op → Nat → Order → Nat
  | .modify id np nv, id', o => modifyVol tick id np nv id' o
  | .ev (.modify id np nv), id', o => modifyVol tick id np nv id' o
  | _, _, o => o.vol

namespace Ref

inductive StepCase (s : RState) : Op → RState → Prop
  /-- table, log, queues and tick as before (time, trading switch, volume reset, reload; a rejected
  creation; an ignored placement, cancellation or modification). The last clause is for the ledger:
  an ignored modification asks no record for another volume. -/
  | quiet {op : Op} {s' : RState} : s'.orders = s.orders → s'.trades = s.trades → s'.bidQ = s.bidQ → s'.askQ = s.askQ →
      s'.tick = s.tick → s'.t = s.t ∨ op = .time s'.t → s'.trading = s.trading ∨ op = .trading s'.trading →
      (∀ id o, s.orders[id]? = some o → volRequested s.tick op id o = o.vol) → StepCase s op s'
  | create (sd : Side) (vol tr : Nat) (p : Option Nat) : Book.offGrid s.tick p = false →
      StepCase s (.create sd vol tr p) (created s sd vol tr p)
  | cancel {op : Op} (id : Nat) (o : Order) : s.orders[id]? = some o → o.status = .active →
      op = .cancel id ∨ op = .ev (.cancel id) →
      StepCase s op { unqueue s o.side id with orders := s.orders.set id { o with status := .cancelled, endt := s.t } }
  | reduce {op : Op} (id : Nat) (o : Order) (v : Nat) : s.orders[id]? = some o → o.status = .active → v < o.vol →
      op = .modify id none (some v) ∨ op = .ev (.modify id none (some v)) →
      StepCase s op { s with orders := s.orders.set id { o with vol := v } }
  | place {op : Op} (id : Nat) (o : Order) : s.orders[id]? = some o → o.status = .new →
      op = .place id ∨ op = .ev (.new id) →
      StepCase s op (enterAt s id { o with status := .active, arr := s.t } (Book.isMarket o))
  | cap (sd : Side) (vol tr : Nat) (p : Option Nat) : Book.offGrid s.tick p = false →
      StepCase s (.cap sd vol tr p)
        (enterAt (created s sd vol tr p) s.orders.length
          { newOrder s sd vol tr p with status := .active, arr := s.t } (Book.isMarket (newOrder s sd vol tr p)))
  | reenter {op : Op} (id : Nat) (o : Order) (np nv : Option Nat) : s.orders[id]? = some o → o.status = .active →
      Book.offGrid s.tick np = false → op = .modify id np nv ∨ op = .ev (.modify id np nv) →
      StepCase s op (enterAt (unqueue s o.side id) id { o with vol := nv.getD o.vol, price := np.getD o.price } false)

theorem StepCase.same {s : RState} {op : Op} (h : ∀ id o, s.orders[id]? = some o → volRequested s.tick op id o = o.vol) :
    StepCase s op s :=
  .quiet rfl rfl rfl rfl rfl (.inl rfl) (.inl rfl) h

theorem step_case (s : RState) (op : Op) : StepCase s op (step s op).1 := by
  have hplace : ∀ id, op = .place id ∨ op = .ev (.new id) → StepCase s op (place s id) := by
    intro id hop
    rcases place_cases s id with h | ⟨o, ho, hn, h⟩ <;> rw [h]
    · rcases hop with rfl | rfl <;> exact .same fun _ _ _ => rfl
    · exact .place id o ho hn hop
  have hcancel : ∀ id, op = .cancel id ∨ op = .ev (.cancel id) → StepCase s op (cancel s id) := by
    intro id hop
    rcases cancel_cases s id with h | ⟨o, ho, ha, h⟩ <;> rw [h]
    · rcases hop with rfl | rfl <;> exact .same fun _ _ _ => rfl
    · exact .cancel id o ho ha hop
  have hmodify : ∀ id np nv, op = .modify id np nv ∨ op = .ev (.modify id np nv) → StepCase s op (modify s id np nv) := by
    intro id np nv hop
    rcases modify_cases s id np nv with ⟨h, hr⟩ | ⟨o, ho, ha, hg, ⟨v, rfl, rfl, hv, h⟩ | h⟩ <;> rw [h]
    · -- ignored: the volume asked for is the record's own unless the request is accepted
      refine .same fun id' o ho => ?_
      have : volRequested s.tick op id' o = modifyVol s.tick id np nv id' o := by rcases hop with rfl | rfl <;> rfl
      rw [this]
      unfold modifyVol
      split
      · rename_i hc; obtain ⟨rfl, h2, h3⟩ := hc; exact hr o ho h2 h3
      · rfl
    · exact .reduce id o v ho ha hv hop
    · exact .reenter id o np nv ho ha hg hop
  cases op with
  | create sd vol tr p =>
    rcases create_cases s sd vol tr p with ⟨h, _⟩ | ⟨h, hg⟩ <;> simp only [step, h]
    · exact .same fun _ _ _ => rfl
    · exact .create sd vol tr p hg
  | place id => exact hplace id (.inl rfl)
  | cap sd vol tr p =>
    rcases create_cases s sd vol tr p with ⟨h, _⟩ | ⟨h, hg⟩ <;> simp only [step, h]
    · exact .same fun _ _ _ => rfl
    · rw [place_new (created_new s sd vol tr p) rfl]
      exact .cap sd vol tr p hg
  | cancel id => exact hcancel id (.inl rfl)
  | modify id np nv => exact hmodify id np nv (.inl rfl)
  | ev e =>
    cases e with
    | new id => exact hplace id (.inr rfl)
    | cancel id => exact hcancel id (.inr rfl)
    | modify id np nv => exact hmodify id np nv (.inr rfl)
  | time t => exact .quiet rfl rfl rfl rfl rfl (.inr rfl) (.inl rfl) fun _ _ _ => rfl
  | trading on => exact .quiet rfl rfl rfl rfl rfl (.inl rfl) (.inr rfl) fun _ _ _ => rfl
  | resetVol => exact .quiet rfl rfl rfl rfl rfl (.inl rfl) (.inl rfl) fun _ _ _ => rfl
  | reload => exact .same fun _ _ _ => rfl

def run (s : RState) (ops : List Op) : RState := ops.foldl (fun s op => (step s op).1) s

/-- What a client sees of a history on the reference engine: the result of every operation and the
complete observation after it. -/
def trace (n : Nat) : RState → List Op → List (Res × Obs)
  | _, [] => []
  | s, op :: rest => ((step s op).2, observe (step s op).1 n) :: trace n (step s op).1 rest

end Ref
end Bourse

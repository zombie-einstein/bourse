/-
The book invariant lifted to markets and environments: in every state a multi-asset market or a
simulation environment can reach by valid, fault-free operations — whatever agents submit and
whatever permutation a step processes — EVERY book satisfies `Inv`. So everything proved for a
single book from `Inv` (published views = recomputation, reload identity, …) holds for every asset
of a running simulation.
-/
import Bourse.Lemmas.ViewsCorrect
import Bourse.Model.Env

namespace Bourse

def Market.Inv (m : Market) : Prop := ∀ b ∈ m.books, Bourse.Inv b

theorem Market.inv_new (t0 : Nat) (ticks : List Nat) (trading : Bool) (ht : ∀ t ∈ ticks, 0 < t) :
    (Market.new t0 ticks trading).Inv := by
  intro b hb
  obtain ⟨tk, htk, rfl⟩ := List.mem_map.mp hb
  exact Bourse.inv_new t0 tk trading (ht tk htk)

theorem Market.Inv.mapBooks {m : Market} (h : m.Inv) (f : Book → Book) (hf : ∀ b, Bourse.Inv b → Bourse.Inv (f b)) :
    Market.Inv { m with books := m.books.map f } := by
  intro b hb
  obtain ⟨b0, hb0, rfl⟩ := List.mem_map.mp hb
  exact hf b0 (h b0 hb0)

theorem Market.Inv.setTime {m : Market} (h : m.Inv) (t : Nat) : (m.setTime t).Inv :=
  h.mapBooks _ fun _ hb => hb.admin (.time t)

theorem Market.Inv.resetTradeVols {m : Market} (h : m.Inv) : m.resetTradeVols.Inv :=
  h.mapBooks _ fun _ hb => hb.admin .resetVol

theorem Market.Inv.enableTrading {m : Market} (h : m.Inv) : m.enableTrading.Inv :=
  h.mapBooks _ fun _ hb => hb.admin (.trading true)

theorem Market.Inv.disableTrading {m : Market} (h : m.Inv) : m.disableTrading.Inv :=
  h.mapBooks _ fun _ hb => hb.admin (.trading false)

theorem Market.Inv.stepOn_of {m : Market} (h : m.Inv) (a : Nat) (op : Op)
    (hop : ∀ b, m.books[a]? = some b → Bourse.Inv b → Bourse.Inv (b.step op).1) : (m.stepOn a op).1.Inv := by
  unfold Market.stepOn
  cases hb : m.books[a]? with
  | none => exact h
  | some b =>
    intro x hx
    rcases List.mem_or_eq_of_mem_set hx with h1 | h1
    · exact h x h1
    · exact h1 ▸ hop b hb (h b (List.mem_of_getElem? hb))

/-- An operation forwarded to one asset preserves the invariant of every book, provided it is valid
and does not fault on the addressed book. -/
theorem Market.Inv.stepOn {m : Market} (h : m.Inv) (a : Nat) (op : Op) (hv : ValidOp op)
    (hnf : ∀ b, m.books[a]? = some b → (b.step op).1.faulted = false) : (m.stepOn a op).1.Inv :=
  h.stepOn_of a op fun b hb hi => inv_step hi op hv (hnf b hb)

/-- Unlike `Market.Inv.stepOn` without a no-fault hypothesis: creating an order cannot fault, a valid volume and
price suffice. -/
theorem Market.Inv.createOrder {m : Market} (h : m.Inv) (a : Nat) (sd : Side) (vol tr : Nat) (p : Option Nat)
    (hvol : 0 < vol) (hp : ∀ q, p = some q → q ≤ MAXP) : (m.createOrder a sd vol tr p).1.Inv :=
  h.stepOn_of a _ fun _ _ hi => hi.create sd vol tr p hvol hp

/-- The batch runs without faulting and carries only valid instructions (modification volumes ≥ 1,
prices within `u32`): stated along the run, like `NoFault` for a single book. -/
def BatchOk : Market → Nat → Nat → List Instr → Prop
  | _, _, _, [] => True
  | m, start, i, (a, ev) :: rest =>
    ValidOp (.ev ev) ∧
    (∀ b, (m.setTime (start + i)).books[a]? = some b → (b.step (.ev ev)).1.faulted = false) ∧
    BatchOk ((m.setTime (start + i)).processEvent a ev) start (i + 1) rest

theorem processBatch_inv {m : Market} (h : m.Inv) (start i : Nat) (batch : List Instr) (hok : BatchOk m start i batch) :
    (MEnv.processBatch m start i batch).Inv := by
  induction batch generalizing m i with
  | nil => exact h
  | cons x rest ih =>
    obtain ⟨a, ev⟩ := x
    simp only [MEnv.processBatch]
    obtain ⟨hv, hnf, hrest⟩ := hok
    exact ih ((h.setTime _).stepOn a (.ev ev) hv hnf) (i + 1) hrest

theorem stepWith_inv {e : MEnv} (h : e.market.Inv) (batch : List Instr)
    (hok : BatchOk e.market.resetTradeVols e.market.time 0 batch) : (e.stepWith batch).market.Inv := by
  simp only [MEnv.stepWith]
  exact (processBatch_inv h.resetTradeVols _ 0 batch hok).setTime _

theorem MEnv.placeOrder_market (e : MEnv) (a : Nat) (sd : Side) (vol tr : Nat) (p : Option Nat) :
    (e.placeOrder a sd vol tr p).1.market = (e.market.createOrder a sd vol tr p).1 := by
  unfold MEnv.placeOrder
  split <;> rfl

/-- What an environment operation must satisfy: valid volumes / prices for submissions, and for a
step a batch — whatever permutation the generator produces — that runs without faulting. -/
def EnvOpOk (e : MEnv) (g : Xoro) : MEnv.EOp → Prop
  | .submit _ _ vol _ p => 0 < vol ∧ ∀ q, p = some q → q ≤ MAXP
  | .step =>
    match Xoro.shuffle e.queue g with
    | some (batch, _) => BatchOk e.market.resetTradeVols e.market.time 0 batch
    | none => True
  | _ => True

/-- **One environment operation** preserves the invariant of every book. -/
theorem env_inv_apply {e : MEnv} (h : e.market.Inv) (g : Xoro) (op : MEnv.EOp) (hok : EnvOpOk e g op) :
    (e.apply g op).1.1.market.Inv := by
  cases op with
  | submit a sd vol tr p =>
    exact MEnv.placeOrder_market e a sd vol tr p ▸ h.createOrder a sd vol tr p hok.1 hok.2
  | qcancel a id | qmodify a id p v => exact h
  | step =>
    simp only [MEnv.apply, MEnv.step]
    simp only [EnvOpOk] at hok
    split
    · rename_i batch g' hs
      rw [hs] at hok
      exact stepWith_inv h batch hok
    · exact h
  | trading on =>
    cases on
    · exact h.disableTrading
    · exact h.enableTrading

def MEnv.runOps : MEnv × Xoro → List MEnv.EOp → MEnv × Xoro
  | s, [] => s
  | s, op :: rest => MEnv.runOps (s.1.apply s.2 op).1 rest

def EnvRunOk : MEnv × Xoro → List MEnv.EOp → Prop
  | _, [] => True
  | s, op :: rest => EnvOpOk s.1 s.2 op ∧ EnvRunOk (s.1.apply s.2 op).1 rest

/-- **Every reachable state of an environment**: after any sequence of submissions, queued
cancellations / modifications, trading switches and steps — with any generator — every book of the
environment satisfies the book invariant. -/
theorem env_inv_run {s : MEnv × Xoro} (h : s.1.market.Inv) (ops : List MEnv.EOp) (hok : EnvRunOk s ops) :
    (MEnv.runOps s ops).1.market.Inv := by
  induction ops generalizing s with
  | nil => exact h
  | cons op rest ih =>
    simp only [MEnv.runOps]
    exact ih (env_inv_apply h s.2 op hok.1) hok.2

theorem env_inv_reachable (t0 : Nat) (ticks : List Nat) (stepSize : Nat) (trading : Bool) (n : Nat) (g : Xoro)
    (ht : ∀ t ∈ ticks, 0 < t) (ops : List MEnv.EOp) (hok : EnvRunOk (MEnv.new t0 ticks stepSize trading n, g) ops) :
    (MEnv.runOps (MEnv.new t0 ticks stepSize trading n, g) ops).1.market.Inv :=
  env_inv_run (Market.inv_new t0 ticks trading ht) ops hok

/-- **Published data of every asset of a running simulation equals its resting orders**: in every
reachable environment state, for every book, every view equals the recomputation from that book's
order list (`views_correct` lifted through `env_inv_run`). -/
theorem env_views_correct {s : MEnv × Xoro} (h : s.1.market.Inv) (ops : List MEnv.EOp) (hok : EnvRunOk s ops)
    (b : Book) (hb : b ∈ (MEnv.runOps s ops).1.market.books) (n : Nat) (hn : ∀ i, i < n → i * b.tick < P32) :
    let os := b.orders.map (·.order)
    b.bidAsk = (Views.bestBid os, Views.bestAsk os) ∧
    b.bidVol = Views.sideVol os .bid ∧ b.askVol = Views.sideVol os .ask ∧
    b.bidBestVolAndOrders = Views.touch os .bid ∧ b.askBestVolAndOrders = Views.touch os .ask ∧
    b.bidLevels n = Views.levels os b.tick .bid n ∧ b.askLevels n = Views.levels os b.tick .ask n ∧
    b.level1 = Views.level1 os ∧ b.level2 n = Views.level2 os b.tick n ∧ b.mid2 = Views.mid2 os :=
  views_correct (env_inv_run h ops hok b hb) n hn

end Bourse

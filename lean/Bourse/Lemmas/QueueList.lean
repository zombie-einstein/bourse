/-
The priority queue of a side, read as the plain list of ids in priority order: how `erase` and
`insert` (of a key with a fresh, larger stamp) act on that list.
-/
import Bourse.Lemmas.SMapLemmas

namespace Bourse
namespace SMap

theorem erase_head {K V : Type} [KeyOrd K] [LawfulKeyOrd K] (k : K) (v : V) (tl : SMap K V) :
    erase k ((k, v) :: tl) = tl := by
  have h : KeyOrd.lt k k = false := LawfulKeyOrd.irrefl k
  simp [erase, h]

theorem map_snd_erase (l : SMap (Nat × Nat) Nat) (k : Nat × Nat) (id : Nat) (hs : Sorted l) (hm : (k, id) ∈ l)
    (hnd : (l.map (·.2)).Nodup) : (erase k l).map (·.2) = (l.map (·.2)).erase id := by
  induction l with
  | nil => cases hm
  | cons hd tl ih =>
    obtain ⟨kh, vh⟩ := hd
    have hs' := sorted_cons.mp hs
    simp only [List.map_cons, List.nodup_cons] at hnd
    rcases List.mem_cons.mp hm with heq | hm'
    · injection heq with h1 h2; subst h1 h2
      simp [erase_head]
    · have hlt : KeyOrd.lt kh k = true := hs'.1 (k, id) hm'
      have hne : vh ≠ id := by
        intro hc; subst hc
        exact hnd.1 (List.mem_map.mpr ⟨(k, vh), hm', rfl⟩)
      simp only [erase, lt_asymm hlt, hlt, Bool.false_eq_true, if_false, if_true, List.map_cons]
      rw [List.erase_cons_tail (by simpa using hne)]
      rw [ih hs'.2 hm' hnd.2]

/-- Inserting a key `(pk, st)` whose stamp exceeds every stamp in the queue puts the entry behind
every entry with price key `≤ pk` and ahead of the rest. -/
theorem insert_back (l : SMap (Nat × Nat) Nat) (pk st id : Nat) (hst : ∀ e ∈ l, e.1.2 < st) :
    insert (pk, st) id l =
      l.takeWhile (fun e => decide (e.1.1 ≤ pk)) ++ ((pk, st), id) :: l.dropWhile (fun e => decide (e.1.1 ≤ pk)) := by
  induction l with
  | nil => rfl
  | cons hd tl ih =>
    obtain ⟨⟨pk', st'⟩, v⟩ := hd
    have hlt : st' < st := hst ((pk', st'), v) List.mem_cons_self
    have ih' := ih fun e he => hst e (List.mem_cons_of_mem _ he)
    simp only [insert, KeyOrd.lt, List.takeWhile_cons, List.dropWhile_cons]
    -- the new key goes ahead of a worse price key and behind a better or equal one (its stamp is larger)
    rcases Nat.lt_trichotomy pk pk' with h | rfl | h
    · simp [h, Nat.not_le_of_lt h]
    · simp [Nat.lt_asymm hlt, hlt, ih']
    · simp [Nat.lt_asymm h, h, Nat.le_of_lt h, Nat.ne_of_gt h, ih']

end SMap
end Bourse

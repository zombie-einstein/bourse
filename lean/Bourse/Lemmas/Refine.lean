/-
Refinement of the implementation model (`Book`, keyed maps + aggregates) onto the reference matching
engine `Ref` (plain FIFO id lists): the abstraction map `abs`, and the match loop — walking the keyed
map head by head is the reference recursion down the id list (`matchLoop_refines`). The operations
follow in `RefineOps.lean` and `RefineStep.lean`.
-/
import Bourse.Lemmas.Reach
import Bourse.Lemmas.QueueList
import Bourse.Lemmas.MatchLoop

namespace Bourse

/-- The ids of a side's queue, in priority order. -/
def absq (s : SideS) : List Nat := s.orders.map (·.2)

def absOrders (os : List Entry) : List Order := os.map (·.order)

/-- The abstraction map: forget keys, stamps and aggregates. -/
def abs (b : Book) : Ref.RState :=
  { t := b.t, tick := b.tick, tradeVol := b.tradeVol, trading := b.trading, orders := absOrders b.orders,
    bidQ := absq b.bid, askQ := absq b.ask, trades := b.trades }

theorem abs_queue (b : Book) (sd : Side) : (abs b).queue sd = absq (b.side sd) := by cases sd <;> rfl

theorem absOrders_getElem? (os : List Entry) (i : Nat) : (absOrders os)[i]? = (os[i]?).map (·.order) := by
  simp [absOrders]

theorem abs_get_of {b : Book} {id : Nat} {e : Entry} (he : b.orders[id]? = some e) :
    (abs b).orders[id]? = some e.order := by
  rw [show (abs b).orders = absOrders b.orders from rfl, absOrders_getElem?, he]; rfl

theorem abs_get_some {b : Book} {id : Nat} {o : Order} :
    (abs b).orders[id]? = some o ↔ ∃ e, b.orders[id]? = some e ∧ e.order = o := by
  rw [show (abs b).orders = absOrders b.orders from rfl, absOrders_getElem?, Option.map_eq_some_iff]

theorem absOrders_set (os : List Entry) (i : Nat) (e : Entry) : absOrders (os.set i e) = (absOrders os).set i e.order := by
  simp [absOrders, List.map_set]

/-- `crosses` (implementation) and `admits` (reference) are the same limit test. -/
theorem crosses_eq_admits (sd : Side) (limit p : Nat) : Book.crosses sd limit p = Ref.admits sd limit p := by
  cases sd <;> simp [Book.crosses, Ref.admits]

/-- The head of a side's queue carries the side's touch price. -/
theorem head_price {os : List Entry} {sd : Side} {s : SideS} {stamp : Nat} (h : SideInv os sd s stamp)
    {k0 : Nat × Nat} {j : Nat} {tl : SMap (Nat × Nat) Nat} (hq : s.orders = (k0, j) :: tl) :
    ∃ m, os[j]? = some m ∧ bestPrice sd s = m.order.price ∧ m.key = ⟨sd, k0.1, k0.2⟩ ∧ 0 < m.order.vol ∧
      m.order.status = .active := by
  obtain ⟨m, hm, hr⟩ := h.row (k := k0) (id := j) (by rw [hq]; exact List.mem_cons_self)
  exact ⟨m, hm, bestPrice_of_key ((bestKey_cons hq).trans hr.pk) hr.price_le, hr.key, hr.vol_pos, hr.status⟩

/-- The state the reference loop carries, read off the implementation state and aggressor copy. -/
def absMatch (b : Book) (e : Entry) : Ref.MatchSt :=
  { orders := absOrders b.orders, trades := b.trades, tradeVol := b.tradeVol, agg := e.order }

/-- The reference loop's body is `match_orders`: the abstraction of the state after `fillStep` is
the reference state after one turn against the same record. -/
theorem absMatch_fillStep (sd : Side) (b : Book) (e : Entry) (id : Nat) (m : Entry) :
    absMatch (Book.fillStep sd b e id m).1 (Book.fillStep sd b e id m).2 =
      Ref.fillSt b.t (absMatch b e) id m.order := by
  simp only [absMatch, Ref.fillSt, Book.fillStep_orders, absOrders_set]
  rfl

/-- Where the implementation's loop does not go on — the guard fails or the opposite queue is
empty — the reference loop, started from the abstraction of that state, stops at once. -/
theorem ref_stops_at_exit {b : Book} {a : Nat} {sd : Side} {e : Entry} {t : Nat} (hl : LoopInv b a)
    (hs : e.order.side = sd)
    (hx : b.fault = true ∨
      (e.order.vol > 0 && Book.crosses sd e.order.price (bestPrice sd.opp (b.side sd.opp))) = false ∨
      (b.side sd.opp).bestOrderIdx = none) :
    Ref.matchQ t (absq (b.side sd.opp)) (absMatch b e) = (absq (b.side sd.opp), absMatch b e) := by
  cases hq : (b.side sd.opp).orders with
  | nil => simp [absq, hq, Ref.matchQ]
  | cons hd tl =>
    obtain ⟨m, hm, hbest, -⟩ := head_price (hl.side sd.opp) hq
    rw [show absq (b.side sd.opp) = hd.2 :: tl.map (·.2) by simp [absq, hq]]
    refine Ref.matchQ_cons_stop fun pass hp => ?_
    have hpm : pass = m.order := Option.some.inj (hp.symm.trans (abs_get_of (b := b) hm))
    show e.order.vol = 0 ∨ Ref.admits e.order.side e.order.price pass.price = false
    rw [hpm, hs, ← crosses_eq_admits, ← hbest]
    rcases hx with hx | hx | hx
    · rw [hl.nofault] at hx; cases hx
    · by_cases hv0 : e.order.vol = 0
      · exact .inl hv0
      · exact .inr (by simpa [Nat.pos_of_ne_zero hv0] using hx)
    · rw [show (b.side sd.opp).bestOrderIdx = some hd.2 by simp [SideS.bestOrderIdx, SMap.first?, hq]] at hx
      cases hx

/-- **The match loop refines the reference loop.** Walking the keyed map by repeatedly taking the
head and maintaining the aggregates yields exactly the opposite queue, order table, trade log,
counter and aggressor that the reference engine gets by structural recursion down the id list. -/
theorem matchLoop_refines {b : Book} {a : Nat} (h : LoopInv b a) (sd : Side) (fuel : Nat) (e : Entry)
    (hside : e.order.side = sd) (hfuel : (b.side sd.opp).orders.length + 1 ≤ fuel)
    (hnf : (Book.matchLoop sd fuel b e).1.faulted = false) :
    absq ((Book.matchLoop sd fuel b e).1.side sd.opp) = (Ref.matchQ b.t (absq (b.side sd.opp)) (absMatch b e)).1 ∧
    absMatch (Book.matchLoop sd fuel b e).1 (Book.matchLoop sd fuel b e).2 =
      (Ref.matchQ b.t (absq (b.side sd.opp)) (absMatch b e)).2 := by
  -- along the loop: the reference run from the start is the reference run from the current state
  have key := LoopInv.matchLoop_induct sd (P := fun b' e' => e'.order.side = sd ∧ b'.t = b.t ∧
      Ref.matchQ b.t (absq (b.side sd.opp)) (absMatch b e) = Ref.matchQ b.t (absq (b'.side sd.opp)) (absMatch b' e'))
    ?_ h ⟨hside, rfl, rfl⟩ fuel hnf
  · -- at the exit the reference stops as well
    obtain ⟨hl, hs, -, hrun⟩ := key
    rw [hrun, ref_stops_at_exit hl hs (Book.matchLoop_exit sd fuel b e)]
    exact ⟨rfl, rfl⟩
  · -- one fill: both loops take the same turn
    intro b' e' id m hl' ⟨hs', ht', hrun'⟩ hf hl''
    obtain ⟨k0, tl, hq⟩ := bestOrderIdx_head hf.head
    obtain ⟨m', hm', hbest, hkey, -, hact⟩ := head_price (hl'.side sd.opp) hq
    rw [hf.get] at hm'; cases hm'
    have had : Ref.admits (absMatch b' e').agg.side (absMatch b' e').agg.price m.order.price = true := by
      show Ref.admits e'.order.side e'.order.price m.order.price = true
      rw [hs', ← crosses_eq_admits, ← hbest, hf.crosses]
    have hpass : (absMatch b' e').orders[id]? = some m.order := abs_get_of hf.get
    refine ⟨(Book.fillStep_matchFrame sd b' e' id m).side.trans hs', (Book.fillStep_frame sd b' e' id m).t.trans ht',
      hrun'.trans ?_⟩
    rw [show absq (b'.side sd.opp) = id :: tl.map (·.2) by simp [absq, hq], ← ht',
      Ref.matchQ_cons_fill hpass hf.vol had, ← absMatch_fillStep sd]
    rcases Book.fillStep_cases sd b' e' id (m := m) (by rw [hact]; simp) with ⟨hle, hside', -⟩ | ⟨hlt, hside', -⟩
    · -- the passive order is filled: the head leaves the queue, both go on down the list
      rw [if_pos (show m.order.vol ≤ (absMatch b' e').agg.vol from hle), hside', absq, removeOrder_orders, hq,
        show (m.key.pk, m.key.st) = k0 by rw [hkey], SMap.erase_head]
    · -- the aggressor is used up: the queue is untouched and both stop
      rw [if_neg (show ¬ m.order.vol ≤ (absMatch b' e').agg.vol from Nat.not_le_of_lt hlt), hside', absq,
        removeVol_orders, hq]
      refine (Ref.matchQ_cons_stop fun _ _ => .inl ?_).symm
      rw [absMatch_fillStep]
      show (Ref.filledBy b'.t e'.order (min e'.order.vol m.order.vol)).vol = 0
      rw [Ref.filledBy_vol, Nat.min_eq_left (Nat.le_of_lt hlt), Nat.sub_self]

end Bourse

/-
Lemmas about `SMap` (the `BTreeMap` model): a strictly sorted association list.
-/
import Bourse.Model.SMap

namespace Bourse

class LawfulKeyOrd (K : Type) [KeyOrd K] : Prop where
  irrefl : ∀ a : K, KeyOrd.lt a a = false
  trans : ∀ a b c : K, KeyOrd.lt a b = true → KeyOrd.lt b c = true → KeyOrd.lt a c = true
  tri : ∀ a b : K, KeyOrd.lt a b = false → KeyOrd.lt b a = false → a = b

instance : LawfulKeyOrd Nat where
  irrefl a := by simp [KeyOrd.lt]
  trans a b c h1 h2 := by simp [KeyOrd.lt] at *; omega
  tri a b h1 h2 := by simp [KeyOrd.lt] at *; omega

instance : LawfulKeyOrd (Nat × Nat) where
  irrefl a := by simp [KeyOrd.lt]
  trans a b c h1 h2 := by
    simp only [KeyOrd.lt, Bool.or_eq_true, Bool.and_eq_true, decide_eq_true_eq] at *
    omega
  tri a b h1 h2 := by
    simp only [KeyOrd.lt, Bool.or_eq_false_iff, Bool.and_eq_false_iff, decide_eq_false_iff_not] at *
    obtain ⟨a1, a2⟩ := a; obtain ⟨b1, b2⟩ := b
    simp only [Prod.mk.injEq]
    omega

namespace SMap
variable {K V : Type} [KeyOrd K]

/-- Strictly sorted by key (hence no duplicate keys). -/
def Sorted (l : SMap K V) : Prop := l.Pairwise (fun a b => KeyOrd.lt a.1 b.1 = true)

theorem sorted_nil : Sorted ([] : SMap K V) := List.Pairwise.nil

theorem sorted_cons {e : K × V} {l : SMap K V} :
    Sorted (e :: l) ↔ (∀ x ∈ l, KeyOrd.lt e.1 x.1 = true) ∧ Sorted l := List.pairwise_cons

theorem find?_of_lt_head {k : K} {e : K × V} {l : SMap K V} (h : KeyOrd.lt k e.1 = true) :
    find? k (e :: l) = none := by
  obtain ⟨k', v'⟩ := e
  simp [find?, h]

theorem first?_min {l : SMap K V} {e : K × V} (hs : Sorted l) (h : first? l = some e) :
    e ∈ l ∧ ∀ x ∈ l, x = e ∨ KeyOrd.lt e.1 x.1 = true := by
  cases l with
  | nil => simp [first?] at h
  | cons hd tl =>
    simp only [first?, Option.some.injEq] at h
    subst h
    exact ⟨List.mem_cons_self, fun x hx => (List.mem_cons.mp hx).imp_right ((sorted_cons.mp hs).1 x)⟩

variable [LawfulKeyOrd K]

theorem lt_asymm {a b : K} (h : KeyOrd.lt a b = true) : KeyOrd.lt b a = false := by
  cases hb : KeyOrd.lt b a with
  | false => rfl
  | true =>
    have := LawfulKeyOrd.trans a b a h hb
    rw [LawfulKeyOrd.irrefl] at this; cases this

theorem ne_of_lt {a b : K} (h : KeyOrd.lt a b = true) : a ≠ b :=
  fun hc => by rw [hc, LawfulKeyOrd.irrefl] at h; cases h

theorem lt_cases (a b : K) : KeyOrd.lt a b = true ∨ KeyOrd.lt b a = true ∨ a = b := by
  cases h1 : KeyOrd.lt a b with
  | true => exact .inl rfl
  | false =>
    cases h2 : KeyOrd.lt b a with
    | true => exact .inr (.inl rfl)
    | false => exact .inr (.inr (LawfulKeyOrd.tri a b h1 h2))

theorem find?_of_mem {k : K} {v : V} {l : SMap K V} (hs : Sorted l) (h : (k, v) ∈ l) : find? k l = some v := by
  induction l with
  | nil => simp at h
  | cons hd tl ih =>
    obtain ⟨kh, vh⟩ := hd
    have hs' := sorted_cons.mp hs
    rcases List.mem_cons.mp h with h | h
    · injection h with h1 h2; subst h1 h2; simp [find?, LawfulKeyOrd.irrefl]
    · have hlt : KeyOrd.lt kh k = true := hs'.1 (k, v) h
      simp [find?, lt_asymm hlt, hlt, ih hs'.2 h]

theorem mem_of_find? {k : K} {v : V} {l : SMap K V} (h : find? k l = some v) : (k, v) ∈ l := by
  induction l with
  | nil => simp [find?] at h
  | cons hd tl ih =>
    obtain ⟨kh, vh⟩ := hd
    rcases lt_cases k kh with h1 | h1 | h1
    · simp [find?, h1] at h
    · simp only [find?, lt_asymm h1, h1, Bool.false_eq_true, if_false, if_true] at h
      exact List.mem_cons_of_mem _ (ih h)
    · subst h1
      simp only [find?, LawfulKeyOrd.irrefl, Bool.false_eq_true, if_false, Option.some.injEq] at h
      subst h
      exact List.mem_cons_self

theorem mem_iff_find? {k : K} {v : V} {l : SMap K V} (hs : Sorted l) : (k, v) ∈ l ↔ find? k l = some v :=
  ⟨find?_of_mem hs, mem_of_find?⟩

theorem key_ne_of_lt_head {k : K} {e : K × V} {l : SMap K V} (hs : Sorted (e :: l)) (h : KeyOrd.lt k e.1 = true) :
    ∀ x ∈ e :: l, x.1 ≠ k := by
  intro x hx
  rcases List.mem_cons.mp hx with hx | hx
  · rw [hx]; exact (ne_of_lt h).symm
  · exact (ne_of_lt (LawfulKeyOrd.trans _ _ _ h ((sorted_cons.mp hs).1 x hx))).symm

theorem mem_insert_iff {k : K} {v : V} {l : SMap K V} {e : K × V} (hs : Sorted l) :
    e ∈ insert k v l ↔ e = (k, v) ∨ (e ∈ l ∧ e.1 ≠ k) := by
  induction l with
  | nil => simp [insert]
  | cons hd tl ih =>
    obtain ⟨kh, vh⟩ := hd
    have hs' := sorted_cons.mp hs
    rcases lt_cases k kh with h | h | h
    · -- `k` goes in front of everything
      have hne := key_ne_of_lt_head hs h e
      simp only [insert, h, if_true, List.mem_cons] at hne ⊢
      exact or_congr_right ⟨fun hm => ⟨hm, hne hm⟩, And.left⟩
    · -- behind the head, whose key is not `k`
      simp only [insert, lt_asymm h, h, Bool.false_eq_true, if_false, if_true, List.mem_cons, ih hs'.2]
      by_cases he : e = (kh, vh)
      · subst he; simp [ne_of_lt h]
      · simp [he]
    · -- the head has key `k` and is overwritten; the tail lies above `k`
      subst h
      have hne : e ∈ tl → e.1 ≠ k := fun hm => (ne_of_lt (hs'.1 e hm)).symm
      simp only [insert, LawfulKeyOrd.irrefl, Bool.false_eq_true, if_false, List.mem_cons]
      refine or_congr_right ⟨fun hm => ⟨.inr hm, hne hm⟩, ?_⟩
      rintro ⟨hm | hm, hk⟩
      · exact absurd (by rw [hm]) hk
      · exact hm

theorem mem_erase_iff {k : K} {l : SMap K V} {e : K × V} (hs : Sorted l) : e ∈ erase k l ↔ e ∈ l ∧ e.1 ≠ k := by
  induction l with
  | nil => simp [erase]
  | cons hd tl ih =>
    obtain ⟨kh, vh⟩ := hd
    have hs' := sorted_cons.mp hs
    rcases lt_cases k kh with h | h | h
    · simp only [erase, h, if_true]
      exact ⟨fun hm => ⟨hm, key_ne_of_lt_head hs h e hm⟩, And.left⟩
    · simp only [erase, lt_asymm h, h, Bool.false_eq_true, if_false, if_true, List.mem_cons, ih hs'.2]
      by_cases he : e = (kh, vh)
      · subst he; simp [ne_of_lt h]
      · simp [he]
    · subst h
      simp only [erase, LawfulKeyOrd.irrefl, Bool.false_eq_true, if_false, List.mem_cons]
      refine ⟨fun hm => ⟨.inr hm, (ne_of_lt (hs'.1 e hm)).symm⟩, ?_⟩
      rintro ⟨hm | hm, hk⟩
      · exact absurd (by rw [hm]) hk
      · exact hm

theorem sorted_insert (k : K) (v : V) (l : SMap K V) (hs : Sorted l) : Sorted (insert k v l) := by
  induction l with
  | nil => simp [insert, Sorted]
  | cons hd tl ih =>
    obtain ⟨kh, vh⟩ := hd
    have hs' := sorted_cons.mp hs
    rcases lt_cases k kh with h | h | h
    · simp only [insert, h, if_true]
      refine sorted_cons.mpr ⟨fun x hx => ?_, hs⟩
      rcases List.mem_cons.mp hx with hx | hx
      · rw [hx]; exact h
      · exact LawfulKeyOrd.trans _ _ _ h (hs'.1 x hx)
    · simp only [insert, lt_asymm h, h, Bool.false_eq_true, if_false, if_true]
      refine sorted_cons.mpr ⟨fun x hx => ?_, ih hs'.2⟩
      rcases (mem_insert_iff hs'.2).mp hx with hx | hx
      · rw [hx]; exact h
      · exact hs'.1 x hx.1
    · subst h
      simp only [insert, LawfulKeyOrd.irrefl, Bool.false_eq_true, if_false]
      exact sorted_cons.mpr ⟨hs'.1, hs'.2⟩

theorem sorted_erase (k : K) (l : SMap K V) (hs : Sorted l) : Sorted (erase k l) := by
  induction l with
  | nil => simp [erase, Sorted]
  | cons hd tl ih =>
    obtain ⟨kh, vh⟩ := hd
    have hs' := sorted_cons.mp hs
    simp only [erase]
    split
    · exact hs
    · split
      · exact sorted_cons.mpr ⟨fun x hx => hs'.1 x ((mem_erase_iff hs'.2).mp hx).1, ih hs'.2⟩
      · exact hs'.2

section
variable [DecidableEq K]

theorem find?_insert (k k' : K) (v : V) (l : SMap K V) (hs : Sorted l) :
    find? k' (insert k v l) = if k' = k then some v else find? k' l := by
  refine Option.ext fun w => ?_
  rw [← mem_iff_find? (sorted_insert k v l hs), mem_insert_iff hs]
  by_cases h : k' = k
  · simp [h, eq_comm]
  · simp [h, mem_iff_find? hs]

theorem find?_erase (k k' : K) (l : SMap K V) (hs : Sorted l) :
    find? k' (erase k l) = if k' = k then none else find? k' l := by
  refine Option.ext fun w => ?_
  rw [← mem_iff_find? (sorted_erase k l hs), mem_erase_iff hs]
  by_cases h : k' = k
  · simp [h]
  · simp [h, mem_iff_find? hs]

end

theorem Sorted.nodup {l : SMap K V} (hl : Sorted l) : l.Nodup :=
  hl.imp fun hlt hc => by rw [hc, LawfulKeyOrd.irrefl] at hlt; cases hlt

theorem sorted_eq_of_mem_iff {a b : SMap K V} (ha : Sorted a) (hb : Sorted b) (h : ∀ e, e ∈ a ↔ e ∈ b) : a = b := by
  refine List.Perm.eq_of_pairwise (le := fun x y : K × V => KeyOrd.lt x.1 y.1 = true) ?_ ha hb
    ((List.perm_ext_iff_of_nodup ha.nodup hb.nodup).mpr h)
  intro x y _ _ h1 h2
  rw [lt_asymm h1] at h2; cases h2

theorem sorted_ext {a b : SMap K V} (ha : Sorted a) (hb : Sorted b) (h : ∀ k, find? k a = find? k b) : a = b :=
  sorted_eq_of_mem_iff ha hb fun e => by rw [mem_iff_find? (k := e.1) (v := e.2) ha, mem_iff_find? hb, h e.1]

theorem perm_insert_new (k : K) (v : V) (l : SMap K V) (hs : Sorted l) (h : find? k l = none) :
    (insert k v l).Perm ((k, v) :: l) := by
  have hne : ∀ e ∈ l, e.1 ≠ k := fun e he hc => by
    rw [← hc, find?_of_mem (v := e.2) hs he] at h; cases h
  refine (List.perm_ext_iff_of_nodup (sorted_insert k v l hs).nodup
    (List.nodup_cons.mpr ⟨fun hm => hne _ hm rfl, hs.nodup⟩)).mpr fun e => ?_
  rw [mem_insert_iff hs, List.mem_cons]
  exact ⟨fun hm => hm.imp_right And.left, fun hm => hm.imp_right fun hm => ⟨hm, hne e hm⟩⟩

theorem perm_erase (k : K) (v : V) (l : SMap K V) (hs : Sorted l) (h : find? k l = some v) :
    l.Perm ((k, v) :: erase k l) := by
  refine (List.perm_ext_iff_of_nodup hs.nodup (List.nodup_cons.mpr
    ⟨fun hm => ((mem_erase_iff hs).mp hm).2 rfl, (sorted_erase k l hs).nodup⟩)).mpr fun e => ?_
  rw [List.mem_cons, mem_erase_iff hs]
  constructor
  · intro hm
    by_cases hk : e.1 = k
    · have := find?_of_mem (v := e.2) hs hm
      rw [hk, h] at this
      exact .inl (Prod.ext hk (Option.some.inj this).symm)
    · exact .inr ⟨hm, hk⟩
  · rintro (hm | hm)
    · rw [hm]; exact mem_of_find? h
    · exact hm.1

theorem length_erase_of_find? (k : K) (v : V) (l : SMap K V)
    (hs : Sorted l) (h : find? k l = some v) : (erase k l).length + 1 = l.length := by
  have := (perm_erase k v l hs h).length_eq
  simp only [List.length_cons] at this
  omega

theorem val_unique {k : K} {v v' : V} {l : SMap K V} (hs : Sorted l) (h : (k, v) ∈ l) (h' : (k, v') ∈ l) : v = v' :=
  Option.some.inj ((find?_of_mem hs h).symm.trans (find?_of_mem hs h'))

end SMap
end Bourse

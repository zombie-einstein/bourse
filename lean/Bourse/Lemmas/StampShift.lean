/-
Stamp shift: adding `k` to the stamp counter and to every stored stamp changes nothing a client can
see — the invariant is kept, the abstraction (queues read in key order) is the same, and loading the
shifted snapshot (`Book.reloadShift`, the harness's `jump k`) yields exactly the shifted book.

Why this matters: the queue stamp is a `u64` counter that only grows. States whose counter is near
`2^32` (or any other boundary an implementation might mishandle) are reachable only after billions
of insertions; the correspondence check reaches them through a snapshot whose stamps are shifted.
These theorems say that such a snapshot is, for every continuation, the original book.
-/
import Bourse.Lemmas.RefineTrace

namespace Bourse

def shiftKey (k : Nat) (e : (Nat × Nat) × Nat) : (Nat × Nat) × Nat := ((e.1.1, e.1.2 + k), e.2)

theorem SideS.shift_orders (k : Nat) (s : SideS) : (s.shift k).orders = s.orders.map (shiftKey k) := rfl

theorem sorted_shift (k : Nat) (q : SMap (Nat × Nat) Nat) (h : SMap.Sorted q) : SMap.Sorted (q.map (shiftKey k)) := by
  refine List.pairwise_map.mpr (List.Pairwise.imp ?_ h)
  rintro ⟨⟨a1, a2⟩, a3⟩ ⟨⟨b1, b2⟩, b3⟩ hab
  dsimp only [shiftKey, KeyOrd.lt] at hab ⊢
  simp only [Bool.or_eq_true, Bool.and_eq_true, decide_eq_true_eq] at hab ⊢
  omega

theorem volOf_shift (k : Nat) (os : List Entry) (id : Nat) : volOf (os.map (Entry.shift k)) id = volOf os id := by
  simp only [volOf, List.getElem?_map, Option.map_map]
  rfl

theorem atKey_shift (k : Nat) (q : SMap (Nat × Nat) Nat) (pk : Nat) :
    atKey (q.map (shiftKey k)) pk = (atKey q pk).map (shiftKey k) := by
  simp only [atKey, List.filter_map]
  rfl

/-- Reading volumes through the shifted table and the shifted queue is reading them through the originals. -/
theorem map_volOf_shift (k : Nat) (os : List Entry) (q : SMap (Nat × Nat) Nat) :
    (q.map (shiftKey k)).map (fun e => volOf (os.map (Entry.shift k)) e.2) = q.map (fun e => volOf os e.2) := by
  rw [List.map_map]
  exact List.map_congr_left fun e _ => volOf_shift k os e.2

theorem aggAt_shift (k : Nat) (os : List Entry) (q : SMap (Nat × Nat) Nat) (pk : Nat) :
    aggAt (os.map (Entry.shift k)) (q.map (shiftKey k)) pk = aggAt os q pk := by
  simp only [aggAt, atKey_shift, map_volOf_shift, List.length_map]

theorem totalVol_shift (k : Nat) (os : List Entry) (q : SMap (Nat × Nat) Nat) :
    totalVol (os.map (Entry.shift k)) (q.map (shiftKey k)) = totalVol os q := by
  simp only [totalVol, map_volOf_shift]

theorem SideInv.shift {os : List Entry} {sd : Side} {s : SideS} {stamp : Nat} (h : SideInv os sd s stamp) (k : Nat) :
    SideInv (os.map (Entry.shift k)) sd (s.shift k) (stamp + k) where
  so := sorted_shift k _ h.so
  sv := h.sv
  ent := by
    intro key id hm
    obtain ⟨x, hx, ⟨⟩⟩ := List.mem_map.mp hm
    obtain ⟨e, he, hq⟩ := h.row (k := x.1) (id := x.2) hx
    exact ⟨e.shift k, by rw [List.getElem?_map, he]; rfl, hq.status, hq.side, by simp only [Entry.shift, hq.key],
      hq.pk, hq.vol_pos, Nat.add_lt_add_right hq.st_lt k, hq.price_le⟩
  agg := by
    intro pk
    rw [SideS.shift_orders, aggAt_shift]
    exact h.agg pk
  tot := by
    rw [SideS.shift_orders, totalVol_shift]
    exact h.tot
  bnd := h.bnd
  nofault := h.nofault

theorem Book.shift_side (k : Nat) (b : Book) (sd : Side) : (b.shift k).side sd = (b.side sd).shift k := by
  cases sd <;> rfl

/-- A row of the shifted table is the shifted row: same order, same price key. -/
theorem Book.shift_row {b : Book} {k id : Nat} {e : Entry} (he : (b.shift k).orders[id]? = some e) :
    ∃ e0, b.orders[id]? = some e0 ∧ e0.shift k = e :=
  Option.map_eq_some_iff.mp (List.getElem?_map (f := Entry.shift k) ▸ he)

theorem Inv.shift {b : Book} (h : Inv b) (k : Nat) : Inv (b.shift k) where
  bid := h.bid.shift k
  ask := h.ask.shift k
  act := by
    intro id e he ha
    obtain ⟨e0, he0, rfl⟩ := Book.shift_row he
    rw [Book.shift_side, SideS.shift_orders]
    exact List.mem_map.mpr ⟨_, h.act id e0 he0 ha, rfl⟩
  ids := by
    intro id e he
    obtain ⟨e0, he0, rfl⟩ := Book.shift_row he
    exact h.ids id e0 he0
  newok := by
    intro id e he hn
    obtain ⟨e0, he0, rfl⟩ := Book.shift_row he
    exact h.newok id e0 he0 hn
  nofault := h.nofault

/-- **Same abstraction**: the reference engine's state (order records, the two FIFO id lists, log,
clock, counter, flag) does not see the shift. -/
theorem abs_shift (b : Book) (k : Nat) : abs (b.shift k) = abs b := by
  simp only [abs, Book.shift, absq, absOrders, SideS.shift, List.map_map]
  congr 1

/-- **Loading the shifted snapshot is the shifted book** (so the harness's `jump k` is `Book.shift k`
on every state satisfying the invariant). -/
theorem reloadShift_eq {b : Book} (h : Inv b) (k : Nat) : b.reloadShift k = b.shift k := by
  have := reload_eq (h.shift k)
  simpa [Book.reload, Book.reloadShift, Book.save, Book.shift, Snap.shift] using this

/-- **A stamp jump is invisible, now and under every continuation**: the complete observation after
the jump is the one before it, and along every valid fault-free history the results and complete
observations from the shifted book are those from the original. -/
theorem shift_silent {b : Book} (h : Inv b) (k n : Nat) (hn : ∀ i, i < n → i * b.tick < P32) (ops : List Op)
    (hv : ∀ op ∈ ops, ValidOp op) (hnf : NoFault b ops) (hnf' : NoFault (b.shift k) ops) :
    (b.shift k).observe n = b.observe n ∧ Book.trace n (b.shift k) ops = Book.trace n b ops := by
  have ht : (b.shift k).tick = b.tick := rfl
  constructor
  · rw [observe_abs (h.shift k) n (by rw [ht]; exact hn), observe_abs h n hn, abs_shift]
  · rw [trace_refines (h.shift k) n (by rw [ht]; exact hn) ops hv hnf', trace_refines h n hn ops hv hnf, abs_shift]

end Bourse
